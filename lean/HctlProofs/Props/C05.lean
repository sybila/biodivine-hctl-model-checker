/-
  C05 — the parser accepts exactly the documented grammar and never drops input; the tokenizer accepts exactly the
  texts of its lexical specification.
-/
import HctlProofs.Lemmas.LexPlain
import HctlProofs.Lemmas.LexSpec
import HctlModel.Api
namespace Hctl.C05

/-- The fuel the model passes is always sufficient. -/
theorem parse_fuel_sufficient (ts : List Tok) : parseToks ts ≠ .error .fuel :=
  parseAt_no_fuel _ .hyb ts (need_lt_parseFuel .hyb ts)

/-- A token list is accepted with tree `t` exactly when it derives `t` in the documented grammar. -/
theorem parse_iff_derives (ts : List Tok) (t : Tree) : parseToks ts = .ok t ↔ Derives ts t :=
  parseAt_iff_derives (need_lt_parseFuel .hyb ts) t

/-- Rejection is exactly non-derivability. -/
theorem reject_iff_not_derivable (ts : List Tok) :
    parseToks ts = .error .bad ↔ ¬ ∃ t, Derives ts t :=
  parseAt_bad_iff (need_lt_parseFuel .hyb ts)

/-- The grammar dictates a unique tree. -/
theorem derives_functional (ts : List Tok) (t t' : Tree) (h : Derives ts t) (h' : Derives ts t') : t = t' :=
  h.functional h'

/-- No token of an accepted input is ignored: the flattened input (groups opened, constants resolved) is the frontier
of the produced tree. -/
theorem accepted_frontier (ts : List Tok) (t : Tree) (h : parseToks ts = .ok t) :
    Tok.flatList ts = t.frontier :=
  ((parse_iff_derives ts t).mp h).frontier_eq

/-- Redundant parentheses around a complete formula do not change the tree. -/
theorem paren_invariant (ts : List Tok) (t : Tree) (h : parseToks ts = .ok t) :
    parseToks [.group ts] = .ok t := by
  rw [parse_iff_derives] at h ⊢
  exact (D.group h).of_term .hyb

/-- Whatever text the plain tokenizer and the parser accept yields a tree without wild-card propositions and domains. -/
theorem plain_rejects_ext (K : CharClass) (hK : Lex.CharOK K) (cs : List Char) (ts : List Tok) (t : Tree)
    (hl : Lex.tokenize K false cs = .ok ts) (hp : parseToks ts = .ok t) : Plain t :=
  plain_of_accepted K hK cs ts t hl hp

/-- The extended tokenizer yields the same tokens as the plain one on every text the plain one accepts. -/
theorem ext_extends_plain (K : CharClass) (hK : Lex.CharOK K) (cs : List Char) (ts : List Tok)
    (hl : Lex.tokenize K false cs = .ok ts) : Lex.tokenize K true cs = .ok ts :=
  (Lex.tokenize_ext_of_plain K hK cs ts hl).1

/-- `parse_and_minimize_extended_formula` yields the same tree as `parse_and_minimize_hctl_formula` wherever the latter succeeds. -/
theorem parseOne_ext_of_plain (E : Env) (K : CharClass) (hK : Lex.CharOK K) (cs : List Char) (t : Tree)
    (h : Api.parseOne E K false cs = .ok t) : Api.parseOne E K true cs = .ok t := by
  unfold Api.parseOne at h ⊢
  cases hl : Lex.tokenize K false cs with
  | error e => simp [hl] at h
  | ok ts =>
    rw [ext_extends_plain K hK cs ts hl]
    simpa [hl] using h

/-- The tokenizer meets its specification (`Sp`, `Seg` of `Spec/Lexical.lean`): a text is tokenized to `toks` exactly
when it spells `toks`. -/
theorem lexer_meets_spec (K : CharClass) (hK : Lex.CharsOK K) (ext : Bool) (cs : List Char) (toks : List Tok) :
    Lex.tokenize K ext cs = .ok toks ↔ Lex.Sp K ext cs toks := Lex.tokenize_iff_spells hK ext cs toks

/-- Tokenizer and parser together: a text is accepted with tree `t` exactly when it spells a token list that derives
`t`. -/
theorem accepts_iff (K : CharClass) (hK : Lex.CharsOK K) (ext : Bool) (cs : List Char) (t : Tree) :
    (∃ toks, Lex.tokenize K ext cs = .ok toks ∧ parseToks toks = .ok t) ↔ ∃ toks, Lex.Sp K ext cs toks ∧ Derives toks t := by
  constructor
  · rintro ⟨toks, h1, h2⟩
    exact ⟨toks, (lexer_meets_spec K hK ext cs toks).mp h1, (parse_iff_derives toks t).mp h2⟩
  · rintro ⟨toks, h1, h2⟩
    exact ⟨toks, (lexer_meets_spec K hK ext cs toks).mpr h1, (parse_iff_derives toks t).mpr h2⟩

/-! Concrete inputs: priorities, associativity, hybrid operators only at the start, and that `(a) ~b` is rejected. -/

private def a : Tok := .atom (.prop "a".toList)
private def b : Tok := .atom (.prop "b".toList)
private def c : Tok := .atom (.prop "c".toList)
private def A : Tree := .atom (.prop "a".toList)
private def B : Tree := .atom (.prop "b".toList)
private def C : Tree := .atom (.prop "c".toList)

example : parseToks [a, .bin .and, b, .bin .or, c] = .ok (.bin .or (.bin .and A B) C) := by decide +kernel
example : parseToks [a, .bin .or, b, .bin .and, c] = .ok (.bin .or A (.bin .and B C)) := by decide +kernel
example : parseToks [a, .bin .imp, b, .bin .imp, c] = .ok (.bin .imp A (.bin .imp B C)) := by decide +kernel
example : parseToks [a, .bin .eu, b, .bin .aw, c] = .ok (.bin .eu A (.bin .aw B C)) := by decide +kernel
example : parseToks [.un .ex, a, .bin .eu, b] = .ok (.bin .eu (.un .ex A) B) := by decide +kernel
example : parseToks [a, .bin .and, .hyb .bind "x".toList none, b] = .error .bad := by decide +kernel
example : parseToks [a, .bin .and, .group [.hyb .bind "x".toList none, b]]
    = .ok (.bin .and A (.hyb .bind "x".toList none B)) := by decide +kernel
-- `(a) ~b` is rejected, not parsed as `~b`
example : parseToks [.group [a], .un .not, b] = .error .bad := by decide +kernel
example : Derives [a, .bin .and, b] (.bin .and A B) :=
  (parse_iff_derives _ _).mp (by decide +kernel)

end Hctl.C05
