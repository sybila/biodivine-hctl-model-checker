/-
  C07 — preprocessing validates binding and renames variables without changing meaning.
-/
import HctlProofs.Lemmas.RenameSpec
namespace Hctl.C07

/-- Preprocessing accepts a parsed formula exactly when every variable occurrence (jump targets included) lies in
the scope of a quantifier for it, no variable is re-quantified in its own scope, and every proposition names a
network variable. -/
theorem rename_ok_iff (isNetVar : Name → Bool) (t : Tree) :
    (∃ t', rename isNetVar t = .ok t') ↔ Scoped isNetVar [] t :=
  ⟨fun ⟨_, h⟩ => (Renamed.of_ok h).scoped, renameRec_ok_of_scoped isNetVar t [] []⟩

theorem rename_err_iff (isNetVar : Name → Bool) (t : Tree) :
    (∃ e, rename isNetVar t = .error e) ↔ ¬ Scoped isNetVar [] t := by
  rw [← rename_ok_iff]
  cases rename isNetVar t <;> simp

/-- the accepted result is alpha-equivalent to the input -/
theorem rename_alpha (isNetVar : Name → Bool) (t t' : Tree) (h : rename isNetVar t = .ok t') :
    toDB [] t = toDB [] t' :=
  (rename_spec h).2.1

/-- every quantifier's variable is named by its nesting depth: `x`, `xx`, `xxx`, … -/
theorem rename_depth_names (isNetVar : Name → Bool) (t t' : Tree) (h : rename isNetVar t = .ok t') :
    DepthNamed 0 t' :=
  (rename_spec h).1

/-- so the number of distinct names is the maximal nesting depth of quantifiers -/
theorem rename_distinct_eq_depth (isNetVar : Name → Bool) (t t' : Tree) (h : rename isNetVar t = .ok t') :
    t'.numQuantVars = t'.depth :=
  numQuantVars_eq_depth t' (rename_depth_names isNetVar t t' h)

/-- and the result meets the naming hypothesis of the evaluator theorems for every graph that passes the support
check `numQuantVars ≤ k` -/
theorem rename_wellScoped (isNetVar : Name → Bool) (t t' : Tree) (h : rename isNetVar t = .ok t')
    (k : Nat) (hk : t'.numQuantVars ≤ k) : WellScoped k 0 t' := by
  rw [rename_distinct_eq_depth isNetVar t t' h] at hk
  exact (rename_depth_names isNetVar t t' h).wellScoped (by omega)

/-- preprocessing is idempotent: its result is in scope, so accepted, and is already the depth naming of its own
de Bruijn form -/
theorem rename_idem (isNetVar : Name → Bool) (t t' : Tree) (h : rename isNetVar t = .ok t') :
    rename isNetVar t' = .ok t' := by
  obtain ⟨hn, _, hs⟩ := rename_spec h
  obtain ⟨t'', h2⟩ := (rename_ok_iff isNetVar t').mpr hs
  exact h2.trans (congrArg _ ((rename_eq_fromDB h2).trans (fromDB_toDB hn)))

/-! Sibling quantifiers reuse a name; the user's names `xx`, `x` are the internal ones in the other order. -/
private def isAB (n : Name) : Bool := n = ['a'] ∨ n = ['b']
private def t1 : Tree :=  -- (!{xx}: {xx}) & (3{x}: @{x}: a)   with user names xx and x
  .bin .and (.hyb .bind ['x','x'] none (.atom (.var ['x','x'])))
            (.hyb .ex ['x'] none (.hyb .jump ['x'] none (.atom (.prop ['a']))))
example : rename isAB t1 = .ok
  (.bin .and (.hyb .bind ['x'] none (.atom (.var ['x'])))
             (.hyb .ex ['x'] none (.hyb .jump ['x'] none (.atom (.prop ['a']))))) := by decide
example : Scoped isAB [] t1 := by simp [Scoped, t1, isAB]
example : rename isAB (.atom (.var ['x'])) = .error .free := by decide
example : rename isAB (.hyb .bind ['x'] none (.hyb .ex ['x'] none (.atom .tt))) = .error .requant := by decide
example : rename isAB (.atom (.prop ['q'])) = .error .badprop := by decide

end Hctl.C07
