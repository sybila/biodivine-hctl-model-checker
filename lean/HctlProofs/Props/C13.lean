/-
  C13 — EW and AW are weak until.
-/
import HctlProofs.Lemmas.LoopSem
namespace Hctl.C13
open Kripke

variable {E : Env} (hE : EnvOK E) (hG : GraphWF E.G)
include hE hG

/-- `eval_ew`: some path satisfies φ until ψ, or φ forever -/
theorem ew_correct {U0 st U a b : CSet} {d : Nat} {φ ψ : Point → Prop} (hU : UnitOK E U0 st U d)
    (ha : Sem E a U φ) (hb : Sem E b U ψ) :
    Sem E (Ops.evalEw E U a b st) U (fun p => ∃ π : Path (E.G.R p.c) p.s,
      untilOn (fun t => φ (p.setS t)) (fun t => ψ (p.setS t)) π.π ∨ ∀ i, φ (p.setS (π.π i))) :=
  sem_ew hE hG hU ha hb

/-- `eval_aw`: every path satisfies φ until ψ, or φ forever -/
theorem aw_correct {U0 st U a b : CSet} {d : Nat} {φ ψ : Point → Prop} (hU : UnitOK E U0 st U d)
    (ha : Sem E a U φ) (hb : Sem E b U ψ) :
    Sem E (Ops.evalAw E U a b) U (fun p => ∀ π : Path (E.G.R p.c) p.s,
      untilOn (fun t => φ (p.setS t)) (fun t => ψ (p.setS t)) π.π ∨ ∀ i, φ (p.setS (π.π i))) :=
  sem_aw hE hG hU ha hb

/-- E[φ W ψ] = E[φ U ψ] ∨ EG φ, as sets -/
theorem ew_eq_eu_or_eg {U0 st U a b : CSet} {d : Nat} {φ ψ : Point → Prop} (hU : UnitOK E U0 st U d)
    (ha : Sem E a U φ) (hb : Sem E b U ψ) :
    EqOn E.pts (Ops.evalEw E U a b st) ((Ops.evalEuSat E a b).union (Ops.evalEg E a st)) :=
  (sem_ew hE hG hU ha hb).eqOn_of_iff (sem_or (sem_eu_path hE hG hU ha hb) (sem_eg_path hE hG hU ha)) fun _ _ _ => exists_or

omit hE hG in
/-- how `eval_aw` computes it -/
theorem aw_eq_not_eu (U a b : CSet) :
    Ops.evalAw E U a b = Ops.evalNeg U (Ops.evalEuSat E (Ops.evalNeg U b) ((Ops.evalNeg U a).inter (Ops.evalNeg U b))) := rfl

theorem psi_imp_ew {U0 st U a b : CSet} {d : Nat} {φ ψ : Point → Prop} (hU : UnitOK E U0 st U d)
    (ha : Sem E a U φ) (hb : Sem E b U ψ) : SubOn E.pts b (Ops.evalEw E U a b st) :=
  hb.subOn (sem_ew hE hG hU ha hb) fun p _ _ h =>
    (exists_path (total_R E.G p.c) p.s).elim fun π => ⟨π, Or.inl (untilOn_now (by rw [π.h0]; exact h))⟩

theorem psi_imp_aw {U0 st U a b : CSet} {d : Nat} {φ ψ : Point → Prop} (hU : UnitOK E U0 st U d)
    (ha : Sem E a U φ) (hb : Sem E b U ψ) : SubOn E.pts b (Ops.evalAw E U a b) :=
  hb.subOn (sem_aw hE hG hU ha hb) fun _ _ _ h π => Or.inl (untilOn_now (by rw [π.h0]; exact h))

omit hE hG in
theorem weak_until_dual (φ ψ : Nat → Prop) (π : Nat → Nat) :
    (untilOn φ ψ π ∨ ∀ i, φ (π i)) ↔ ¬ untilOn (fun t => ¬ ψ t) (fun t => ¬ φ t ∧ ¬ ψ t) π :=
  wuntil_dual φ ψ π

omit hE hG in
example (G : Graph) (K : SemCtx) (φ ψ : Tree) (p : Point) :
    sat G K (.bin .ew φ ψ) p ↔ ∃ π : Path (G.R p.c) p.s,
      untilOn (fun t => sat G K φ (p.setS t)) (fun t => sat G K ψ (p.setS t)) π.π ∨
      ∀ i, sat G K φ (p.setS (π.π i)) := Iff.rfl

end Hctl.C13
