/-
  C02 — wild-card propositions and restricted domains have the documented meaning.  For the string entry point see
  `extendedDirty_correct` (Lemmas/EntryPoints.lean).
-/
import HctlProofs.Lemmas.EvalCorrect
namespace Hctl.C02

/-- The extended evaluator returns exactly the satisfying points, for every context whose domain sets do not depend on
the spare variables (colour-dependent, empty and nested domains included). -/
theorem extended_correct {E : Env} (hE : EnvOK E) (hG : GraphWF E.G) (K : SemCtx) (hK : CtxOK E K)
    (t : Tree) (hw : WellNamed E.G.k 0 t) (hd : DomsIn K t) :
    ∀ p ∈ E.pts, (evalTop E K t p = true ↔ (E.G.valid p.c = true ∧ sat E.G K t p)) :=
  evalTop_correct hE hG K hK t hw hd

theorem sat_wild (G : Graph) (K : SemCtx) (w : Name) (a : CSet) (h : K.wild w = some a) (p : Point) :
    sat G K (.atom (.wild w)) p ↔ a p = true := by
  simp only [sat, h, Option.some.injEq, exists_eq_left']

theorem sat_bind_dom (G : Graph) (K : SemCtx) (x l : Name) (a : CSet) (h : K.dom l = some a) (φ : Tree) (p : Point) :
    sat G K (.hyb .bind x (some l) φ) p ↔ (a p = true ∧ sat G K φ (p.setV (varId x) p.s)) :=
  and_congr (inDom_some h p) Iff.rfl

theorem sat_exists_dom (G : Graph) (K : SemCtx) (x l : Name) (a : CSet) (h : K.dom l = some a) (φ : Tree) (p : Point) :
    sat G K (.hyb .ex x (some l) φ) p ↔ ∃ t, t < G.nS ∧ a (p.setS t) = true ∧ sat G K φ (p.setV (varId x) t) :=
  exists_congr fun _ => and_congr_right fun _ => and_congr (inDom_some h _) Iff.rfl

theorem sat_forall_dom (G : Graph) (K : SemCtx) (x l : Name) (a : CSet) (h : K.dom l = some a) (φ : Tree) (p : Point) :
    sat G K (.hyb .all x (some l) φ) p ↔ ∀ t, t < G.nS → a (p.setS t) = true → sat G K φ (p.setV (varId x) t) :=
  forall_congr' fun _ => imp_congr_right fun _ => imp_congr (inDom_some h _) Iff.rfl

theorem exists_empty_dom (G : Graph) (K : SemCtx) (x l : Name) (a : CSet) (h : K.dom l = some a) (φ : Tree) (p : Point)
    (hempty : ∀ t, a (p.setS t) = false) : ¬ sat G K (.hyb .ex x (some l) φ) p := by
  rw [sat_exists_dom G K x l a h]
  rintro ⟨t, _, hp, _⟩
  rw [hempty t] at hp
  cases hp

theorem forall_empty_dom (G : Graph) (K : SemCtx) (x l : Name) (a : CSet) (h : K.dom l = some a) (φ : Tree) (p : Point)
    (hempty : ∀ t, a (p.setS t) = false) : sat G K (.hyb .all x (some l) φ) p := by
  rw [sat_forall_dom G K x l a h]
  intro t _ hp
  rw [hempty t] at hp
  cases hp

/-! The README equivalences, for every body φ; `A` names one state-and-colour set as wild-card and as domain. -/

section readme
variable (G : Graph) (K : SemCtx) (A x : Name) (a : CSet)
  (hw : K.wild A = some a) (hd : K.dom A = some a)
  (hsc : ∀ q q' : Point, q.s = q'.s → q.c = q'.c → a q = a q')
include hw hd hsc

/-- `!{x} in %A%: φ`  =  `!{x}: (%A% & φ)` -/
theorem readme_equiv_1 (φ : Tree) (p : Point) :
    sat G K (.hyb .bind x (some A) φ) p ↔ sat G K (.hyb .bind x none (.bin .and (.atom (.wild A)) φ)) p := by
  rw [sat_bind_dom G K x A a hd]
  show _ ↔ True ∧ (sat G K (.atom (.wild A)) _ ∧ _)
  rw [true_and, sat_wild G K A a hw, hsc p (p.setV (varId x) p.s) rfl rfl]

/-- `3{x} in %A%: φ`  =  `3{x}: ((@{x}: %A%) & φ)` -/
theorem readme_equiv_2_gen (φ : Tree) (p : Point) (hx : varId x < p.v.length) :
    sat G K (.hyb .ex x (some A) φ) p ↔
      sat G K (.hyb .ex x none (.bin .and (.hyb .jump x none (.atom (.wild A))) φ)) p := by
  rw [sat_exists_dom G K x A a hd]
  refine exists_congr fun t => and_congr_right fun _ => ?_
  show _ ↔ True ∧ (sat G K (.atom (.wild A)) _ ∧ _)
  rw [true_and, sat_wild G K A a hw, setV_getV_same p _ t hx, hsc ((p.setV (varId x) t).setS t) (p.setS t) rfl rfl]

/-- `V{x} in %A%: φ`  =  `V{x}: ((@{x}: %A%) => φ)` -/
theorem readme_equiv_3_gen (φ : Tree) (p : Point) (hx : varId x < p.v.length) :
    sat G K (.hyb .all x (some A) φ) p ↔
      sat G K (.hyb .all x none (.bin .imp (.hyb .jump x none (.atom (.wild A))) φ)) p := by
  rw [sat_forall_dom G K x A a hd]
  refine forall_congr' fun t => imp_congr_right fun _ => ?_
  show _ ↔ (True → sat G K (.atom (.wild A)) _ → _)
  rw [true_implies, sat_wild G K A a hw, setV_getV_same p _ t hx, hsc ((p.setV (varId x) t).setS t) (p.setS t) rfl rfl]

/-- `3{x} in %A%: @{x}: φ`  =  `3{x}: @{x}: (%A% & φ)` -/
theorem readme_equiv_2 (φ : Tree) (p : Point) (hx : varId x < p.v.length) :
    sat G K (.hyb .ex x (some A) (.hyb .jump x none φ)) p ↔
      sat G K (.hyb .ex x none (.hyb .jump x none (.bin .and (.atom (.wild A)) φ))) p := by
  rw [readme_equiv_2_gen G K A x a hw hd hsc _ p hx]
  simp only [sat]

/-- `V{x} in %A%: @{x}: φ`  =  `V{x}: @{x}: (%A% => φ)` -/
theorem readme_equiv_3 (φ : Tree) (p : Point) (hx : varId x < p.v.length) :
    sat G K (.hyb .all x (some A) (.hyb .jump x none φ)) p ↔
      sat G K (.hyb .all x none (.hyb .jump x none (.bin .imp (.atom (.wild A)) φ))) p := by
  rw [readme_equiv_3_gen G K A x a hw hd hsc _ p hx]
  simp only [sat]

end readme

end Hctl.C02
