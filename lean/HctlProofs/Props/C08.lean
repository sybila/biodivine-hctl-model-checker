/-
  C08 — results are invariant under meaning-preserving rewrites of the formula text: everything downstream of
  preprocessing is a function of the preprocessed tree, and the rewrites do not change that tree.
-/
import HctlProofs.Lemmas.ParseAll
import HctlProofs.Props.C05
namespace Hctl.C08

/-- Alpha-equivalent inputs, if both are accepted, are preprocessed to the same tree. -/
theorem alpha_invariant (isNetVar : Name → Bool) (t1 t2 a b : Tree)
    (h1 : rename isNetVar t1 = .ok a) (h2 : rename isNetVar t2 = .ok b) (hα : toDB [] t1 = toDB [] t2) :
    a = b := by
  rw [rename_eq_fromDB h1, rename_eq_fromDB h2, hα]

/-- A formula in redundant parentheses parses to the same tree. -/
theorem paren_invariant (ts : List Tok) (t : Tree) (h : parseToks ts = .ok t) :
    parseToks [.group ts] = .ok t := C05.paren_invariant ts t h

/-- So does a formula with a sub-formula in redundant parentheses. -/
theorem paren_invariant_inner (pre post inner : List Tok) (t : Tree) :
    Derives (pre ++ .group inner :: post) t → Derives (pre ++ .group [.group inner] :: post) t := fun h =>
  D.subst_term (x := .group inner) rfl (fun _ hu => D.group ((D.group hu.group_inv).of_term .hyb)) h pre post rfl

/-- `true`, `True`, `1` denote one constant, `false`, `False`, `0` the other. -/
theorem const_spelling_invariant :
    constOrProp "true".toList = constOrProp "True".toList ∧ constOrProp "True".toList = constOrProp "1".toList ∧
    constOrProp "false".toList = constOrProp "False".toList ∧ constOrProp "False".toList = constOrProp "0".toList := by
  decide +kernel

/-- The canonical name `x…x` of `n + 1` letters is read as variable `n`. -/
theorem copy_by_canonical_name (n : Nat) : varId (xs (n + 1)) = n := varId_xs n

/-- A white-space character in front of a text does not change its tokens. -/
theorem leading_ws_invariant (K : CharClass) (ext : Bool) (c : Char) (hc : K.isWs c = true) (cs : List Char) :
    Lex.tokenize K ext (c :: cs) = Lex.tokenize K ext cs := by
  simp [Lex.tokenize, Lex.lexRec_ws ext c hc]

/-- If `a` tokenizes to `t1` and `b` to `t2`, then `a`, any white space, `b` tokenizes to `t1 ++ t2` (the white space
may be empty if `b` does not begin with a name character). -/
theorem ws_between_tokens (K : CharClass) (hK : Lex.CharsOK K) (ext : Bool) (a b w : List Char) (t1 t2 : List Tok)
    (ha : Lex.tokenize K ext a = .ok t1) (hb : Lex.tokenize K ext b = .ok t2) (hw : Lex.AllWs K w)
    (hne : w ≠ [] ∨ Lex.Sep K b) : Lex.tokenize K ext (a ++ (w ++ b)) = .ok (t1 ++ t2) := by
  rw [Lex.tokenize_iff_spells hK] at ha hb ⊢
  exact Lex.ws_between hK ha hb hw hne

/-- White space inside the segment of a hybrid operator (`{x}`, `in`, `%d%`, `:`) is ignored: all spellings of a
segment yield the same token. -/
theorem hybrid_segment_ws (K : CharClass) (hK : Lex.CharsOK K) (ext : Bool) (o : HybOp) (seg seg' : List Char) (v : Name)
    (d : Option Name) (cs : List Char) (ts : List Tok)
    (h1 : Lex.Seg K (if o = .jump then false else ext) seg v d) (h2 : Lex.Seg K (if o = .jump then false else ext) seg' v d)
    (hcs : Lex.tokenize K ext cs = .ok ts) :
    Lex.tokenize K ext (o.str ++ (seg ++ cs)) = .ok (.hyb o v d :: ts) ∧
    Lex.tokenize K ext (o.str ++ (seg' ++ cs)) = .ok (.hyb o v d :: ts) := by
  rw [Lex.tokenize_iff_spells hK] at hcs ⊢
  rw [Lex.tokenize_iff_spells hK]
  exact ⟨Lex.Sp.hybShort o seg v d cs ts h1 hcs, Lex.Sp.hybShort o seg' v d cs ts h2 hcs⟩

def longName : HybOp → List Char
  | .bind => ['b','i','n','d'] | .jump => ['j','u','m','p'] | .ex => ['e','x','i','s','t','s'] | .all => ['f','o','r','a','l','l']

/-- `\bind`, `\jump`, `\exists`, `\forall` yield the same token as `!`, `@`, `3`, `V`. -/
theorem long_short_invariant (K : CharClass) (hK : Lex.CharsOK K) (ext : Bool) (o : HybOp) (seg : List Char) (v : Name)
    (d : Option Name) (cs : List Char) (ts : List Tok)
    (hs : Lex.Seg K (if o = .jump then false else ext) seg v d) (hcs : Lex.tokenize K ext cs = .ok ts) :
    Lex.tokenize K ext (o.str ++ (seg ++ cs)) = .ok (.hyb o v d :: ts) ∧
    Lex.tokenize K ext ('\\' :: (longName o ++ (seg ++ cs))) = .ok (.hyb o v d :: ts) := by
  rw [Lex.tokenize_iff_spells hK] at hcs ⊢
  rw [Lex.tokenize_iff_spells hK]
  refine ⟨Lex.Sp.hybShort o seg v d cs ts hs hcs, Lex.Sp.hybLong o (longName o) seg v d cs ts ?_ hs hcs⟩
  cases o <;> exact Lex.hybOfLong_eq_some.mpr rfl

variable (E : Env) (K : CharClass)

/-- Two lists of strings whose members preprocess to the same trees (or fail alike), position by position, get
identical outcomes from `model_check_multiple_formulae_dirty`. -/
theorem formulaeDirty_congr (U : CSet) (fs gs : List (List Char))
    (h : fs.map (Api.parseOne E K false) = gs.map (Api.parseOne E K false)) :
    Api.formulaeDirty E K U fs = Api.formulaeDirty E K U gs := by
  unfold Api.formulaeDirty
  rw [parseAll_congr E K false [] fs gs h]

/-- The same for `model_check_multiple_extended_formulae_dirty`, with any context. -/
theorem extendedDirty_congr (U : CSet) (ctxSets : List (Name × CSet)) (fs gs : List (List Char))
    (h : fs.map (Api.parseOne E K true) = gs.map (Api.parseOne E K true)) :
    Api.extendedDirty E K U ctxSets fs = Api.extendedDirty E K U ctxSets gs := by
  unfold Api.extendedDirty
  rw [parseAll_congr E K true ctxSets fs gs h]

theorem parseOne_of_tokens (ext : Bool) (a b : List Char) (h : Lex.tokenize K ext a = Lex.tokenize K ext b) :
    Api.parseOne E K ext a = Api.parseOne E K ext b := by
  unfold Api.parseOne; rw [h]

theorem parseOne_map_of_tokens (ext : Bool) : ∀ (fs gs : List (List Char)),
    fs.map (Lex.tokenize K ext) = gs.map (Lex.tokenize K ext) →
    fs.map (Api.parseOne E K ext) = gs.map (Api.parseOne E K ext) := by
  intro fs
  induction fs with
  | nil => intro gs h; cases gs with
    | nil => rfl
    | cons g gs => simp at h
  | cons f fs ih =>
    intro gs h
    cases gs with
    | nil => simp at h
    | cons g gs =>
      simp only [List.map_cons, List.cons.injEq] at h ⊢
      exact ⟨parseOne_of_tokens E K ext f g h.1, ih gs h.2⟩

/-- Results are invariant under every rewriting of the input strings that preserves the token lists. -/
theorem results_of_same_tokens (U : CSet) (fs gs : List (List Char))
    (h : fs.map (Lex.tokenize K false) = gs.map (Lex.tokenize K false)) :
    Api.formulaeDirty E K U fs = Api.formulaeDirty E K U gs :=
  formulaeDirty_congr E K U fs gs (parseOne_map_of_tokens E K false fs gs h)

theorem results_of_same_tokens_ext (U : CSet) (ctxSets : List (Name × CSet)) (fs gs : List (List Char))
    (h : fs.map (Lex.tokenize K true) = gs.map (Lex.tokenize K true)) :
    Api.extendedDirty E K U ctxSets fs = Api.extendedDirty E K U ctxSets gs :=
  extendedDirty_congr E K U ctxSets fs gs (parseOne_map_of_tokens E K true fs gs h)

/-- Two accepted strings whose trees are alpha-equivalent preprocess alike. -/
theorem parseOne_of_alpha (ext : Bool) (a b : List Char) (k1 k2 : List Tok) (t1 t2 r1 r2 : Tree)
    (ha : Lex.tokenize K ext a = .ok k1) (hb : Lex.tokenize K ext b = .ok k2)
    (hp1 : parseToks k1 = .ok t1) (hp2 : parseToks k2 = .ok t2)
    (hr1 : rename (fun n => (E.G.label n).isSome) t1 = .ok r1) (hr2 : rename (fun n => (E.G.label n).isSome) t2 = .ok r2)
    (hα : toDB [] t1 = toDB [] t2) : Api.parseOne E K ext a = Api.parseOne E K ext b := by
  have := alpha_invariant _ t1 t2 r1 r2 hr1 hr2 hα
  subst this
  simp only [Api.parseOne, ha, hb, hp1, hp2, hr1, hr2]

/-- A string and the same formula in redundant parentheses preprocess alike. -/
theorem parseOne_of_parens (ext : Bool) (a b : List Char) (ts : List Tok) (t : Tree)
    (ha : Lex.tokenize K ext a = .ok ts) (hb : Lex.tokenize K ext b = .ok [.group ts]) (hp : parseToks ts = .ok t) :
    Api.parseOne E K ext a = Api.parseOne E K ext b := by
  simp only [Api.parseOne, ha, hb, hp, paren_invariant ts t hp]

/-- White space in front of a formula changes no result. -/
theorem leading_ws_results (U : CSet) (c : Char) (hc : K.isWs c = true) (cs : List Char) (rest : List (List Char)) :
    Api.formulaeDirty E K U ((c :: cs) :: rest) = Api.formulaeDirty E K U (cs :: rest) := by
  apply formulaeDirty_congr
  simp only [List.map_cons, List.cons.injEq, and_true]
  exact parseOne_of_tokens E K false _ _ (leading_ws_invariant K false c hc cs)

end Hctl.C08
