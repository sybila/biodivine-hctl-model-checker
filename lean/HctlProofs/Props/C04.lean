/-
  C04 — sub-formula caching and batch evaluation are observationally transparent: `cache_transparent` for one call,
  `batch_sound` for a list.  The second half shows that the initial context of the extended entry points
  (`extend_context_with_wild_cards` as two insertion loops, `dedupNames`) satisfies the invariant.  For the string entry
  points see Lemmas/PositionIndep.lean.
-/
import HctlProofs.Lemmas.EvalNodeSound
import HctlProofs.Lemmas.MarkDups
namespace Hctl.C04

section main
-- `hU0`: the unit ignores the variable slots (a cache hit reads the cached set at a renamed slot)
variable {C : CharClass} {E : Env} (hE : EnvOK E) (hG : GraphWF E.G) {K : SemCtx} (hK : CtxOK E K) {U0 : CSet}
  (hC : Lex.CharsOK C) (hSC : CtxSC K) (hU0 : ∀ p ∈ E.pts, ∀ i t, t < E.G.nS → U0 (p.setV i t) = U0 p)
  (hA : C12.GraphAsync E.G)
include hE hG hK hC hSC hU0 hA

/-- From every context satisfying the cache invariant (any history, any duplicate counters) `eval_node` returns exactly
the satisfaction set, keeps the invariant and restores `free_var_domains`. -/
theorem cache_transparent (t : Tree) (U : CSet) (ds : List (Option Name)) (ctx : ECtx)
    (hq : GoodQ C E K U0 t U ds) (hf : ctx.fvd = fvdOf ds) (hc : CacheOK C E K U0 ctx) :
    ∃ r ctx', Eval.evalNode E (Ops.steadyOf E U0) t U ctx = .ok (r, ctx') ∧
      Sem E r U (sat E.G K t) ∧ CacheOK C E K U0 ctx' ∧ ctx'.fvd = ctx.fvd :=
  evalNode_sound hC hE hG hK (keySem_holds hC hE hG hK hSC hU0) (keyWild_holds hC E K U0) hA t U ds ctx hq hf hc

/-- … hence it equals the cache-free evaluator (sharing disabled) -/
theorem cached_eq_pure (t : Tree) (U : CSet) (ds : List (Option Name)) (ctx : ECtx)
    (hq : GoodQ C E K U0 t U ds) (hf : ctx.fvd = fvdOf ds) (hc : CacheOK C E K U0 ctx) :
    ∃ r ctx', Eval.evalNode E (Ops.steadyOf E U0) t U ctx = .ok (r, ctx') ∧
      EqOn E.pts r (Eval.evalPure E (Ops.steadyOf E U0) K.wild K.dom t U) := by
  obtain ⟨r, ctx', he, hs, _, _⟩ := cache_transparent hE hG hK hC hSC hU0 hA t U ds ctx hq hf hc
  exact ⟨r, ctx', he, hs.eqOn (evalPure_correct hE hG K hK U0 _ t ds.length U hq.wscoped.wellNamed hq.domsIn hq.unit)⟩

/-- Folding `eval_node` over a list with one threaded context returns the exact satisfaction sets, whatever
invariant-satisfying context it starts from. -/
theorem batch_sound : ∀ (trees : List Tree) (ctx : ECtx), (∀ t ∈ trees, GoodQ C E K U0 t U0 []) → ctx.fvd = [] →
    CacheOK C E K U0 ctx →
    ∃ rs, Api.evalAll E (Ops.steadyOf E U0) U0 trees ctx = .ok rs ∧ rs.length = trees.length ∧
      ∀ i (hi : i < trees.length) (hi' : i < rs.length), Sem E rs[i] U0 (sat E.G K trees[i]) := by
  intro trees
  induction trees with
  | nil => intro ctx _ _ _; exact ⟨[], rfl, rfl, fun i hi => absurd hi (Nat.not_lt_zero i)⟩
  | cons t ts ih =>
    intro ctx hq hf hc
    obtain ⟨r, ctx', he, hs, hc', hf'⟩ :=
      cache_transparent hE hG hK hC hSC hU0 hA t U0 [] ctx (hq t (by simp)) (by simpa [fvdOf, fvdFrom] using hf) hc
    obtain ⟨rs, hev, hlen, hall⟩ := ih ctx' (fun t' ht' => hq t' (by simp [ht'])) (hf'.trans hf) hc'
    refine ⟨r :: rs, by simp [Api.evalAll, he, hev], by simp [hlen], ?_⟩
    intro i hi hi'
    cases i with
    | zero => simpa using hs
    | succ i => simpa using hall i (by simpa using hi) (by simpa using hi')

/-- two batch evaluations (order, repetitions, counters, caches differ) agree on the formulae they share -/
theorem batch_results_agree (trees1 trees2 : List Tree) (ctx1 ctx2 : ECtx)
    (hq1 : ∀ t ∈ trees1, GoodQ C E K U0 t U0 []) (hq2 : ∀ t ∈ trees2, GoodQ C E K U0 t U0 [])
    (hf1 : ctx1.fvd = []) (hf2 : ctx2.fvd = []) (hc1 : CacheOK C E K U0 ctx1) (hc2 : CacheOK C E K U0 ctx2) :
    ∃ rs1 rs2, Api.evalAll E (Ops.steadyOf E U0) U0 trees1 ctx1 = .ok rs1 ∧
      Api.evalAll E (Ops.steadyOf E U0) U0 trees2 ctx2 = .ok rs2 ∧
      ∀ i j (hi : i < trees1.length) (hj : j < trees2.length) (hi' : i < rs1.length) (hj' : j < rs2.length),
        trees1[i] = trees2[j] → EqOn E.pts rs1[i] rs2[j] := by
  obtain ⟨rs1, he1, _, h1⟩ := batch_sound hE hG hK hC hSC hU0 hA trees1 ctx1 hq1 hf1 hc1
  obtain ⟨rs2, he2, _, h2⟩ := batch_sound hE hG hK hC hSC hU0 hA trees2 ctx2 hq2 hf2 hc2
  refine ⟨rs1, rs2, he1, he2, ?_⟩
  intro i j hi hj hi' hj' heq
  have a := h1 i hi hi'
  have b := h2 j hj hj'
  rw [heq] at a
  exact a.eqOn b

omit hE hG hK hC hSC hU0 hA in
/-- without wild-cards, any duplicate map whose keys have at most one variable starts from the invariant -/
theorem init_cacheOK_plain (D : DupMap)
    (hD : ∀ key n, dupGet key D = some n → KeyWitness C E key) :
    CacheOK C E noCtx U0 { dups := D } :=
  ⟨fun _ _ _ h => by simp [cacheGet] at h, fun _ _ h => by simp [noCtx, noCtx'] at h,
   fun _ _ h => by simp [noCtx, noCtx'] at h, hD⟩

omit hK hC hSC hU0 hA in
theorem init_cacheOK_noSharing : CacheOK C E noCtx U0 { dups := [] } :=
  init_cacheOK_plain [] (fun _ _ h => by simp [dupGet] at h)

end main

/-- the context of the extended entry points: wild-card and domain sets looked up by name -/
def ctxOf (props doms : List (Name × CSet)) : SemCtx := ⟨fun n => props.lookup n, fun n => doms.lookup n⟩

theorem ctxOf_wild (props doms : List (Name × CSet)) (w : Name) : (ctxOf props doms).wild w = props.lookup w := rfl
theorem ctxOf_dom (props doms : List (Name × CSet)) (d : Name) : (ctxOf props doms).dom d = doms.lookup d := rfl

theorem unit0_slotIndep (E : Env) : ∀ p ∈ E.pts, ∀ i t, t < E.G.nS → E.G.unit0 (p.setV i t) = E.G.unit0 p :=
  fun _ _ _ _ _ => rfl

theorem wkey_inj {a b : Name} (h : wkey a = wkey b) : a = b := by
  simp only [wkey, Prod.mk.injEq, and_true] at h
  have := List.append_cancel_right h
  simpa using this

/-- one step of the wild-card loop of `extend_context_with_wild_cards` -/
def wildStep (c : ECtx) (e : Name × CSet) : ECtx :=
  let key : Key := ('%' :: e.1 ++ ['%'], [])
  let dups := match dupGet key c.dups with
    | some n => dupSet key (n + 1) c.dups
    | none => dupSet key 1 c.dups
  { c with dups := dups, cache := cacheInsert key (e.2, []) c.cache }

theorem wildStep_eq (c : ECtx) (e : Name × CSet) :
    ∃ m, wildStep c e = { c with dups := dupSet (wkey e.1) m c.dups, cache := cacheInsert (wkey e.1) (e.2, []) c.cache } := by
  unfold wildStep
  dsimp only
  split <;> exact ⟨_, rfl⟩

theorem wildFold_rest : ∀ (l : List (Name × CSet)) (c : ECtx),
    (l.foldl wildStep c).domRaw = c.domRaw ∧ (l.foldl wildStep c).fvd = c.fvd := by
  intro l
  induction l with
  | nil => intro c; exact ⟨rfl, rfl⟩
  | cons e l ih => intro c; rw [List.foldl_cons]; exact ih (wildStep c e)

def wildEntries (props : List (Name × CSet)) : Cache := props.map fun e => (wkey e.1, (e.2, []))

/-- on the cache the loop is a sequence of `HashMap::insert`s; on the duplicate map it adds the wild-card keys -/
theorem wildFold_cache : ∀ (props : List (Name × CSet)) (c : ECtx),
    (props.foldl wildStep c).cache =
      (wildEntries props).foldl (fun acc e => (e.1, e.2) :: acc.filter (fun x => x.1 != e.1)) c.cache := by
  intro props
  induction props with
  | nil => intro c; rfl
  | cons e props ih =>
    intro c
    obtain ⟨m, hm⟩ := wildStep_eq c e
    rw [List.foldl_cons, ih, hm]
    rfl

theorem wildFold_dups (key : Key) : ∀ (props : List (Name × CSet)) (c : ECtx),
    (dupGet key (props.foldl wildStep c).dups).isSome = true ↔
      (∃ e ∈ props, key = wkey e.1) ∨ (dupGet key c.dups).isSome = true := by
  intro props
  induction props with
  | nil => intro c; simp
  | cons e props ih =>
    intro c
    obtain ⟨m, hm⟩ := wildStep_eq c e
    rw [List.foldl_cons, ih, hm, dupGet_set_isSome_iff]
    simp only [List.mem_cons, exists_eq_or_imp]
    rw [or_left_comm]
    exact or_assoc.symm

theorem extend_eq (ctx : ECtx) (props doms : List (Name × CSet)) :
    ctx.extendWithWildCards props doms =
      { props.foldl wildStep ctx with
        domRaw := doms.foldl (fun acc e => (e.1, e.2) :: acc.filter (fun x => x.1 != e.1)) (props.foldl wildStep ctx).domRaw } := rfl

/-- The context `extend_context_with_wild_cards` builds from any duplicate map whose keys have at most one variable
satisfies the invariant for the (deduplicated) wild-card and domain sets. -/
theorem init_cacheOK_ext {C : CharClass} (hC : Lex.CharsOK C) {E : Env} {U0 : CSet} (D : DupMap)
    (props doms : List (Name × CSet)) (hp : (props.map Prod.fst).Nodup) (hd : (doms.map Prod.fst).Nodup)
    (hpv : ∀ e ∈ props, Lex.ValidId C e.1) (hD : ∀ key n, dupGet key D = some n → KeyWitness C E key) :
    CacheOK C E (ctxOf props doms) U0 (({ dups := D } : ECtx).extendWithWildCards props doms) := by
  have hn : ((wildEntries props).map Prod.fst).Nodup := by
    have := List.Pairwise.map (S := (· ≠ ·)) wkey (fun a b hab h => hab (wkey_inj h)) hp
    rw [List.map_map] at this
    rw [wildEntries, List.map_map]
    exact this
  have hcache : ∀ key, cacheGet key (props.foldl wildStep ({ dups := D } : ECtx)).cache = (wildEntries props).lookup key := by
    intro key
    rw [wildFold_cache, cacheGet_eq_lookup, lookup_foldl_insert key _ _ hn]
    exact Option.or_none
  rw [extend_eq]
  refine ⟨?_, ?_, ?_, ?_⟩
  · intro key R rren hg
    left
    rw [hcache] at hg
    obtain ⟨e, he, h1⟩ := List.mem_map.mp (mem_of_lookup hg)
    cases h1
    exact ⟨e.1, e.2, rfl, lookup_of_mem_nodup hp he, rfl, rfl⟩
  · intro w a hwa
    have hmem : (w, a) ∈ props := mem_of_lookup hwa
    exact ⟨(hcache _).trans (lookup_of_mem_nodup hn (List.mem_map.mpr ⟨(w, a), hmem, rfl⟩)),
      (wildFold_dups _ props _).mpr (Or.inl ⟨(w, a), hmem, rfl⟩)⟩
  · intro l a hla
    rw [(wildFold_rest props _).1, lookup_foldl_insert l _ _ hd, ← ctxOf_dom props, hla]
    rfl
  · intro key n hg
    rcases (wildFold_dups key props _).mp (by rw [hg]; rfl) with ⟨e, he, h1⟩ | h1
    · subst h1
      refine ⟨.atom (.wild e.1), 0, [], [], ?_, by simp, by simp [DepthNamed], by simp [WellScoped],
        hpv e he, trivial⟩
      have := (keyWild_holds hC E (ctxOf props doms) U0).wild_key e.1 [] (hpv e he)
      simpa [fvdOf, fvdFrom] using this
    · obtain ⟨m, hdg⟩ := Option.isSome_iff_exists.mp h1
      exact hD key m hdg

/-- `dedupNames` appends an entry iff its label is new: labels stay distinct and the first entry of a label is kept -/
theorem dedupFold_spec (n : Name) : ∀ (l acc : List (Name × CSet)), (acc.map Prod.fst).Nodup →
    let r := l.foldl (fun acc e => if acc.any (fun x => x.1 == e.1) then acc else acc ++ [e]) acc
    (r.map Prod.fst).Nodup ∧ r.lookup n = (acc.lookup n).or (l.lookup n) := by
  intro l
  induction l with
  | nil => intro acc h; exact ⟨h, by simp⟩
  | cons e l ih =>
    intro acc h
    obtain ⟨k, v⟩ := e
    rw [List.foldl_cons, lookup_cons_eq n k v l]
    by_cases ha : acc.any (fun x => x.1 == k) = true
    · rw [if_pos ha]
      refine ⟨(ih acc h).1, (ih acc h).2.trans ?_⟩
      by_cases hn : n = k
      · -- the new entry is shadowed by the entry of `acc` with its label
        obtain ⟨x, hx, hxe⟩ := List.any_eq_true.mp ha
        obtain ⟨a, ha'⟩ := Option.isSome_iff_exists.mp (lookup_isSome_iff_mem_keys.mpr
          (List.mem_map.mpr ⟨x, hx, by rw [hn]; simpa using hxe⟩ : n ∈ acc.map Prod.fst))
        rw [ha']; rfl
      · rw [if_neg hn]
    · rw [if_neg ha]
      have hnew : k ∉ acc.map Prod.fst := fun hm => by
        obtain ⟨x, hx, hxe⟩ := List.mem_map.mp hm
        exact ha (List.any_eq_true.mpr ⟨x, hx, by simp [hxe]⟩)
      have h' : ((acc ++ [(k, v)]).map Prod.fst).Nodup := by
        rw [List.map_append, List.nodup_append]
        exact ⟨h, by simp, fun a haa b hb hab => hnew (by cases List.mem_singleton.mp hb; cases hab; exact haa)⟩
      refine ⟨(ih _ h').1, (ih _ h').2.trans ?_⟩
      rw [List.lookup_append, Option.or_assoc, lookup_cons_eq n k v []]
      by_cases hn : n = k
      · subst hn; rw [lookup_eq_none_iff_not_mem_keys.mpr hnew]; simp
      · rw [if_neg hn, if_neg hn]; rfl

theorem dedupNames_nodup (l : List (Name × CSet)) : ((Api.dedupNames l).map Prod.fst).Nodup :=
  (dedupFold_spec [] l [] List.nodup_nil).1

theorem lookup_dedupNames (l : List (Name × CSet)) (n : Name) : (Api.dedupNames l).lookup n = l.lookup n :=
  (dedupFold_spec n l [] List.nodup_nil).2

section
variable {C : CharClass} (hC : Lex.CharsOK C) {E : Env} (hE : EnvOK E) (hG : GraphWF E.G) (hA : C12.GraphAsync E.G)
include hC hE hG hA

/-- `model_check_multiple_extended_formulae_dirty` after parsing: exact satisfaction sets from the context built from a
duplicate map and the wild-card and domain sets. -/
theorem extended_batch_sound (U0 : CSet) (trees : List Tree) (D : DupMap) (props doms : List (Name × CSet))
    (hK : CtxOK E (ctxOf (Api.dedupNames props) (Api.dedupNames doms)))
    (hSC : CtxSC (ctxOf (Api.dedupNames props) (Api.dedupNames doms)))
    (hU0 : ∀ p ∈ E.pts, ∀ i t, t < E.G.nS → U0 (p.setV i t) = U0 p)
    (hq : ∀ t ∈ trees, GoodQ C E (ctxOf (Api.dedupNames props) (Api.dedupNames doms)) U0 t U0 [])
    (hpv : ∀ e ∈ Api.dedupNames props, Lex.ValidId C e.1)
    (hD : ∀ key n, dupGet key D = some n → KeyWitness C E key) :
    ∃ rs, Api.evalAll E (Ops.steadyOf E U0) U0 trees
        (({ dups := D } : ECtx).extendWithWildCards (Api.dedupNames props) (Api.dedupNames doms)) = .ok rs ∧
      rs.length = trees.length ∧
      ∀ i (hi : i < trees.length) (hi' : i < rs.length),
        Sem E rs[i] U0 (sat E.G (ctxOf (Api.dedupNames props) (Api.dedupNames doms)) trees[i]) := by
  have hc := init_cacheOK_ext hC (E := E) (U0 := U0) D _ _ (dedupNames_nodup props) (dedupNames_nodup doms) hpv hD
  exact batch_sound hE hG hK hC hSC hU0 hA trees _ hq (by rw [extend_eq]; exact (wildFold_rest _ _).2) hc

omit hC hE hG hA in
theorem goodQ_roots {K : SemCtx} {U0 : CSet} (trees : List Tree) (hq : ∀ t ∈ trees, GoodQ C E K U0 t U0 []) :
    ∀ t ∈ trees, DepthNamed 0 t ∧ WellScoped E.G.k 0 t ∧ Lex.TreeOK C t ∧ PropNamesOK t :=
  fun t ht => ⟨(hq t ht).named, (hq t ht).wscoped, (hq t ht).valid.1, (hq t ht).valid.2⟩

/-- `_model_check_multiple_trees_dirty`, duplicate map from `mark_duplicates`: exact satisfaction sets, no hypothesis
about keys or duplicates left. -/
theorem treesDirty_sound (U0 : CSet) (trees : List Tree)
    (hU0 : ∀ p ∈ E.pts, ∀ i t, t < E.G.nS → U0 (p.setV i t) = U0 p)
    (hq : ∀ t ∈ trees, GoodQ C E noCtx U0 t U0 []) :
    ∃ rs, Api.treesDirty E U0 trees = .ok rs ∧ rs.length = trees.length ∧
      ∀ i (hi : i < trees.length) (hi' : i < rs.length), Sem E rs[i] U0 (sat E.G noCtx trees[i]) := by
  have hc : CacheOK C E noCtx U0 { dups := markDups trees } :=
    init_cacheOK_plain _ (markDups_witness trees (goodQ_roots trees hq))
  exact batch_sound hE hG (ctxOK_noCtx E) hC ctxSC_noCtx hU0 hA trees _ hq rfl hc

/-- the same for the extended entry point: context from `mark_duplicates` and `extend_context_with_wild_cards` -/
theorem extendedDirty_sound (U0 : CSet) (trees : List Tree) (props doms : List (Name × CSet))
    (hK : CtxOK E (ctxOf (Api.dedupNames props) (Api.dedupNames doms)))
    (hSC : CtxSC (ctxOf (Api.dedupNames props) (Api.dedupNames doms)))
    (hU0 : ∀ p ∈ E.pts, ∀ i t, t < E.G.nS → U0 (p.setV i t) = U0 p)
    (hpv : ∀ e ∈ Api.dedupNames props, Lex.ValidId C e.1)
    (hq : ∀ t ∈ trees, GoodQ C E (ctxOf (Api.dedupNames props) (Api.dedupNames doms)) U0 t U0 []) :
    ∃ rs, Api.evalAll E (Ops.steadyOf E U0) U0 trees
        (({ dups := markDups trees } : ECtx).extendWithWildCards (Api.dedupNames props) (Api.dedupNames doms)) = .ok rs ∧
      rs.length = trees.length ∧
      ∀ i (hi : i < trees.length) (hi' : i < rs.length),
        Sem E rs[i] U0 (sat E.G (ctxOf (Api.dedupNames props) (Api.dedupNames doms)) trees[i]) :=
  extended_batch_sound hC hE hG hA U0 trees _ props doms hK hSC hU0 hq hpv
    (markDups_witness trees (goodQ_roots trees hq))

end
end Hctl.C04
