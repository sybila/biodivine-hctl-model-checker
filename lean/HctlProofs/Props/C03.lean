/-
  C03 — results never leave the graph's valid universe; closed results ignore the spare variables.  For the counts the
  tool prints see `reported_counts_le` (Lemmas/CliCounts.lean).
-/
import HctlProofs.Lemmas.EvalCorrect
namespace Hctl.C03

/-- every set the evaluator produces in a universe `U` lies inside `U` -/
theorem eval_subset_unit {E : Env} (hE : EnvOK E) (hG : GraphWF E.G) (K : SemCtx) (hK : CtxOK E K)
    (U0 st : CSet) (t : Tree) (d : Nat) (U : CSet) (hw : WellNamed E.G.k d t) (hd : DomsIn K t)
    (hU : UnitOK E U0 st U d) :
    ∀ p ∈ E.pts, Eval.evalPure E st K.wild K.dom t U p = true → U p = true :=
  fun p hp h => ((evalPure_correct hE hG K hK U0 st t d U hw hd hU p hp).mp h).1

/-- no result contains a colour that violates the regulation constraints -/
theorem result_colours_valid {E : Env} (hE : EnvOK E) (hG : GraphWF E.G) (K : SemCtx) (hK : CtxOK E K)
    (t : Tree) (hw : WellNamed E.G.k 0 t) (hd : DomsIn K t) :
    ∀ p ∈ E.pts, evalTop E K t p = true → E.G.valid p.c = true :=
  fun p hp h => ((evalTop_correct hE hG K hK t hw hd p hp).mp h).1

theorem counts_le {E : Env} (hE : EnvOK E) (hG : GraphWF E.G) (K : SemCtx) (hK : CtxOK E K)
    (t : Tree) (hw : WellNamed E.G.k 0 t) (hd : DomsIn K t) :
    card E.pts (evalTop E K t) ≤ card E.pts E.G.unit0 :=
  card_mono (result_colours_valid hE hG K hK t hw hd)

/-- the raw result of a closed formula does not depend on the symbolic variables that encode HCTL variables -/
theorem closed_indep_spare {E : Env} (hE : EnvOK E) (hG : GraphWF E.G) (K : SemCtx) (hK : CtxOK E K)
    (hSC : CtxSC K) (t : Tree) (hw : WellScoped E.G.k 0 t) (hd : DomsIn K t) (s c : Nat) (v v' : List Nat)
    (hp : (⟨s, c, v⟩ : Point) ∈ E.pts) (hp' : (⟨s, c, v'⟩ : Point) ∈ E.pts) :
    evalTop E K t ⟨s, c, v⟩ = evalTop E K t ⟨s, c, v'⟩ :=
  Sem.indep_spare hE hSC hw (evalTop_correct hE hG K hK t hw.wellNamed hd) hp hp'

end Hctl.C03
