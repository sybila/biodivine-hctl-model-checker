/-
  C14 — invalid input is rejected with an error, never a panic or a silent answer.  Every `unwrap` / `unreachable!` /
  index site of the evaluator is an explicit `Fault.panic` in the model.  Here: preprocessed trees; the string entry
  points are in Lemmas/EntryPoints.lean and Lemmas/ErrorClasses.lean.
-/
import HctlProofs.Props.C04
import HctlProofs.Props.C07
import HctlProofs.Lemmas.ParseAll
namespace Hctl.C14

theorem renameRec_plain (isNetVar : Name → Bool) :
    ∀ t m last t', renameRec isNetVar t m last = .ok t' → Plain t → Plain t' :=
  fun _ _ _ _ h => (Renamed.of_ok h).plain

theorem plain_wildsIn {t : Tree} (h : Plain t) : WildsIn noCtx t :=
  (wildsIn_iff noCtx t).mpr fun w hw => by rw [(plain_labels t h).1] at hw; cases hw

/-- a preprocessed formula that passes the support check is a legitimate top-level query in every context that has a
set for each of its labels -/
theorem rename_goodQ (C : CharClass) (hC : Lex.CharsOK C) (E : Env) (K : SemCtx) (t t' : Tree)
    (h : rename (fun n => (E.G.label n).isSome) t = .ok t') (hk : t'.numQuantVars ≤ E.G.k)
    (hv : Lex.TreeOK C t ∧ PropNamesOK t) (hd : DomsIn K t') (hw : WildsIn K t') :
    GoodQ C E K E.G.unit0 t' E.G.unit0 [] :=
  ⟨C07.rename_wellScoped _ t t' h _ hk, C07.rename_depth_names _ t t' h, Nat.zero_le _,
    hd, fun i l hil => by simp at hil, hw, (Renamed.of_ok h).propsOK,
    unitOK_unit0 E, unitDesc_nil, rename_treeOK hC _ t t' hv h⟩

theorem preprocessed_goodQ (C : CharClass) (hC : Lex.CharsOK C) (E : Env) (t t' : Tree)
    (h : rename (fun n => (E.G.label n).isSome) t = .ok t') (hp : Plain t) (hk : t'.numQuantVars ≤ E.G.k)
    (hv : Lex.TreeOK C t ∧ PropNamesOK t) :
    GoodQ C E noCtx E.G.unit0 t' E.G.unit0 [] :=
  have hp' := renameRec_plain _ t [] [] t' h hp
  rename_goodQ C hC E noCtx t t' h hk hv (hp'.domsIn noCtx) (plain_wildsIn hp')

variable {C : CharClass} {E : Env} (hE : EnvOK E) (hG : GraphWF E.G)
  (hC : Lex.CharsOK C) (hA : C12.GraphAsync E.G)
include hE hG hC hA

/-- Evaluating preprocessed plain formulae the graph supports, with any duplicate map whose keys have at most one
variable, returns a result: no panic site of the evaluator is reachable. -/
theorem no_panic_trees (trees : List Tree) (D : DupMap)
    (hq : ∀ t ∈ trees, GoodQ C E noCtx E.G.unit0 t E.G.unit0 [])
    (hD : ∀ key n, dupGet key D = some n → KeyWitness C E key) :
    ∃ rs, Api.evalAll E (Ops.steadyOf E E.G.unit0) E.G.unit0 trees { dups := D } = .ok rs :=
  let ⟨rs, h, _, _⟩ := C04.batch_sound hE hG (ctxOK_noCtx E) hC ctxSC_noCtx
    (C04.unit0_slotIndep E) hA trees { dups := D } hq rfl
    (C04.init_cacheOK_plain D hD)
  ⟨rs, h⟩

/-- … so `_model_check_multiple_trees_dirty` never panics -/
theorem no_panic_treesDirty (trees : List Tree) (hq : ∀ t ∈ trees, GoodQ C E noCtx E.G.unit0 t E.G.unit0 []) :
    ∃ rs, Api.treesDirty E E.G.unit0 trees = .ok rs :=
  no_panic_trees hE hG hC hA trees _ hq (markDups_witness trees (C04.goodQ_roots trees hq))

end Hctl.C14
