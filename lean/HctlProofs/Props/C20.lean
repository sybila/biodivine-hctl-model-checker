/-
  C20 — the answer for a colour equals the answer on the network instantiated by it.
-/
import HctlProofs.Props.C04
namespace Hctl.C20

theorem sat_colourwise {G G' : Graph} {c c' : Nat} (h : AgreeCol G G' c c') (t : Tree) (s : Nat) (v : List Nat) :
    sat G noCtx t ⟨s, c, v⟩ ↔ sat G' noCtx t ⟨s, c', v⟩ :=
  sat_agree h noCtx (fun _ _ h => nomatch h) (fun _ _ h => nomatch h) t s v

/-- two exact results (cached or not) for the same formula, on a family and on a graph whose colour `c'` has the
transitions of the family's colour `c`, have the same slice -/
theorem colour_slice_sem {E E' : Env} {c c' : Nat} (h : AgreeCol E.G E'.G c c') (hv : E.G.valid c = true)
    (hv' : E'.G.valid c' = true) (t : Tree) (r r' : CSet) (hr : Sem E r E.G.unit0 (sat E.G noCtx t))
    (hr' : Sem E' r' E'.G.unit0 (sat E'.G noCtx t))
    (s : Nat) (v : List Nat) (hmem : (⟨s, c, v⟩ : Point) ∈ E.pts) (hmem' : (⟨s, c', v⟩ : Point) ∈ E'.pts) :
    r ⟨s, c, v⟩ = r' ⟨s, c', v⟩ :=
  hr.eq_at hr' hmem hmem' (by simp only [Graph.unit0, hv, hv']) fun _ => sat_colourwise h t s v

/-- if colour `c'` of `E'.G` has the transitions, variables and labels of colour `c` of `E.G`, then for every plain
formula the two results have the same slice -/
theorem colour_slice_eq {E E' : Env} (hE : EnvOK E) (hG : GraphWF E.G) (hE' : EnvOK E') (hG' : GraphWF E'.G)
    {c c' : Nat} (h : AgreeCol E.G E'.G c c') (hv : E.G.valid c = true) (hv' : E'.G.valid c' = true)
    (t : Tree) (hw : WellNamed E.G.k 0 t) (hw' : WellNamed E'.G.k 0 t) (hp : Plain t)
    (s : Nat) (v : List Nat) (hmem : (⟨s, c, v⟩ : Point) ∈ E.pts) (hmem' : (⟨s, c', v⟩ : Point) ∈ E'.pts) :
    evalTop E noCtx t ⟨s, c, v⟩ = evalTop E' noCtx t ⟨s, c', v⟩ :=
  colour_slice_sem h hv hv' t _ _ (evalTop_correct hE hG noCtx (ctxOK_noCtx E) t hw (hp.domsIn noCtx))
    (evalTop_correct hE' hG' noCtx (ctxOK_noCtx E') t hw' (hp.domsIn noCtx)) s v hmem hmem'

/-- … whatever other colours either graph admits -/
theorem slice_independent_of_other_colours {E E' : Env} (hE : EnvOK E) (hG : GraphWF E.G) (hE' : EnvOK E')
    (hG' : GraphWF E'.G) {c : Nat} (h : AgreeCol E.G E'.G c c) (hv : E.G.valid c = true) (hv' : E'.G.valid c = true)
    (t : Tree) (hw : WellNamed E.G.k 0 t) (hw' : WellNamed E'.G.k 0 t) (hp : Plain t)
    (s : Nat) (v : List Nat) (hmem : (⟨s, c, v⟩ : Point) ∈ E.pts) (hmem' : (⟨s, c, v⟩ : Point) ∈ E'.pts) :
    evalTop E noCtx t ⟨s, c, v⟩ = evalTop E' noCtx t ⟨s, c, v⟩ :=
  colour_slice_eq hE hG hE' hG' h hv hv' t hw hw' hp s v hmem hmem'

/-! `AgreeCol` can be met: a two-colour graph and its instantiation by colour 1. -/
private def G2 : Graph :=
  { nS := 2, nC := 2, nV := 1, k := 0, valid := fun _ => true
    step := fun c _ s => if c = 0 then none else some (1 - s)
    label := fun _ => none }
private def G2w : Graph :=
  { nS := 2, nC := 1, nV := 1, k := 0, valid := fun _ => true
    step := fun _ _ s => some (1 - s)
    label := fun _ => none }
example : AgreeCol G2 G2w 1 0 := ⟨rfl, rfl, fun _ _ => by simp [G2, G2w], rfl⟩

/-- the slices coincide for the plain batch entry point too -/
theorem colour_slice_entry {C : CharClass} (hC : Lex.CharsOK C) {E E' : Env} (hE : EnvOK E) (hG : GraphWF E.G)
    (hA : C12.GraphAsync E.G) (hE' : EnvOK E') (hG' : GraphWF E'.G) (hA' : C12.GraphAsync E'.G)
    {c c' : Nat} (h : AgreeCol E.G E'.G c c') (hv : E.G.valid c = true) (hv' : E'.G.valid c' = true)
    (trees : List Tree) (hq : ∀ t ∈ trees, GoodQ C E noCtx E.G.unit0 t E.G.unit0 [])
    (hq' : ∀ t ∈ trees, GoodQ C E' noCtx E'.G.unit0 t E'.G.unit0 []) :
    ∃ rs rs', Api.treesDirty E E.G.unit0 trees = .ok rs ∧ Api.treesDirty E' E'.G.unit0 trees = .ok rs' ∧
      ∀ i (hi : i < rs.length) (hi' : i < rs'.length) s v, (⟨s, c, v⟩ : Point) ∈ E.pts → (⟨s, c', v⟩ : Point) ∈ E'.pts →
        rs[i] ⟨s, c, v⟩ = rs'[i] ⟨s, c', v⟩ := by
  obtain ⟨rs, h1, hl1, a1⟩ := C04.treesDirty_sound hC hE hG hA E.G.unit0 trees
    (C04.unit0_slotIndep E) hq
  obtain ⟨rs', h2, hl2, a2⟩ := C04.treesDirty_sound hC hE' hG' hA' E'.G.unit0 trees
    (C04.unit0_slotIndep E') hq'
  refine ⟨rs, rs', h1, h2, ?_⟩
  intro i hi hi' s v hm hm'
  have ht : i < trees.length := by omega
  exact colour_slice_sem h hv hv' trees[i] rs[i] rs'[i] (a1 i ht hi) (a2 i ht hi') s v hm hm'

/-! The instantiated network as an object of the model.  That the network produced by the graph library's `pick_witness`
has this transition table is decided on every instance by the oracle O20. -/

/-- the network with the unknown functions fixed as colour `c` fixes them -/
def instantiate (G : Graph) (c : Nat) : Graph :=
  { G with nC := 1, valid := fun _ => G.valid c, step := fun _ j s => G.step c j s }

theorem agree_instantiate (G : Graph) (c : Nat) : AgreeCol G (instantiate G c) c 0 := ⟨rfl, rfl, fun _ _ => rfl, rfl⟩

theorem graphWF_instantiate {G : Graph} (h : GraphWF G) (c : Nat) : GraphWF (instantiate G c) :=
  ⟨fun _ j s t hst hs => h.step_lt c j s t hst hs⟩

theorem graphAsync_instantiate {G : Graph} (h : C12.GraphAsync G) (c : Nat) : C12.GraphAsync (instantiate G c) :=
  ⟨fun _ j s t hst => h.step_ne c j s t hst⟩

/-- the slice of colour `c` of an exact result on the family equals the exact result on the instantiated network -/
theorem slice_eq_instantiated {E : Env} {c : Nat} (hv : E.G.valid c = true) (t : Tree) (r r' : CSet)
    (hr : Sem E r E.G.unit0 (sat E.G noCtx t))
    (hr' : Sem (Env.pure (instantiate E.G c)) r' (instantiate E.G c).unit0 (sat (instantiate E.G c) noCtx t))
    (s : Nat) (v : List Nat) (hmem : (⟨s, c, v⟩ : Point) ∈ E.pts)
    (hmem' : (⟨s, 0, v⟩ : Point) ∈ (Env.pure (instantiate E.G c)).pts) :
    r ⟨s, c, v⟩ = r' ⟨s, 0, v⟩ :=
  colour_slice_sem (E' := Env.pure (instantiate E.G c)) (agree_instantiate E.G c) hv hv t r r' hr hr' s v hmem hmem'

end Hctl.C20
