/-
  C10 — pre-computed results can be substituted for closed sub-formulae.
-/
import HctlProofs.Lemmas.EntryPoints
namespace Hctl.C10

/-- replace every occurrence of the sub-formula `g` by the wild-card proposition `%w%` -/
def substAll (g : Tree) (w : Name) : Tree → Tree
  | .atom a => if Tree.atom a = g then .atom (.wild w) else .atom a
  | .un o c => if Tree.un o c = g then .atom (.wild w) else .un o (substAll g w c)
  | .bin o l r => if Tree.bin o l r = g then .atom (.wild w) else .bin o (substAll g w l) (substAll g w r)
  | .hyb o x d c => if Tree.hyb o x d c = g then .atom (.wild w) else .hyb o x d (substAll g w c)

/-- closed under the moves of the semantics: a transition, jumping to a stored state, storing a state -/
structure MoveClosed (G : Graph) (S : Point → Prop) : Prop where
  step : ∀ q t, S q → G.R q.c q.s t → S (q.setS t)
  jump : ∀ q i, S q → S (q.setS (q.getV i))
  bind : ∀ q i, S q → S (q.setV i q.s)
  quant : ∀ q i t, S q → t < G.nS → S (q.setV i t)

/-- If `%w%` holds exactly where `g` holds on a set of points closed under the moves of the semantics, replacing `g` by
`%w%` anywhere in `f` does not change satisfaction on the set. -/
theorem sat_subst_closed (G : Graph) (K : SemCtx) (g : Tree) (w : Name) (S : Point → Prop) (hS : MoveClosed G S)
    (h : ∀ q, S q → (sat G K (.atom (.wild w)) q ↔ sat G K g q)) :
    ∀ f p, S p → (sat G K (substAll g w f) p ↔ sat G K f p) := by
  intro f
  induction f with
  | atom a =>
    intro p hp
    simp only [substAll]
    split
    · rename_i heq; rw [heq]; exact h p hp
    · exact Iff.rfl
  | un o c ih =>
    intro p hp
    simp only [substAll]
    split
    · rename_i heq; rw [heq]; exact h p hp
    · rw [sat_un, sat_un]
      exact stepUn_congr_on (I := fun t => S (p.setS t)) (fun x y hx hr => hS.step (p.setS x) y hx hr) o hp
        fun t ht => ih _ ht
  | bin o l r ihl ihr =>
    intro p hp
    simp only [substAll]
    split
    · rename_i heq; rw [heq]; exact h p hp
    · rw [sat_bin, sat_bin]
      exact stepBin_congr_on (I := fun t => S (p.setS t)) (fun x y hx hr => hS.step (p.setS x) y hx hr) o hp
        (fun t ht => ihl _ ht) (fun t ht => ihr _ ht)
  | hyb o x d c ih =>
    intro p hp
    simp only [substAll]
    split
    · rename_i heq; rw [heq]; exact h p hp
    · rw [sat_hyb, sat_hyb]
      cases o with
      | jump => exact ih _ (hS.jump p _ hp)
      | bind => exact and_congr_right fun _ => ih _ (hS.bind p _ hp)
      | ex => exact exists_congr fun t => and_congr_right fun ht => and_congr_right fun _ => ih _ (hS.quant p _ t hp ht)
      | all => exact forall_congr' fun t => imp_congr_right fun ht => imp_congr_right fun _ => ih _ (hS.quant p _ t hp ht)

/-- If, on the colour of `p`, `%w%` holds exactly where `g` holds, replacing `g` by `%w%` anywhere in `f` (inside
quantifier and domain scopes too) does not change satisfaction at `p`. -/
theorem sat_subst (G : Graph) (K : SemCtx) (g : Tree) (w : Name) :
    ∀ f p, (∀ q : Point, q.c = p.c → (sat G K (.atom (.wild w)) q ↔ sat G K g q)) →
      (sat G K (substAll g w f) p ↔ sat G K f p) :=
  fun f p h => sat_subst_closed G K g w (fun q => q.c = p.c)
    ⟨fun _ _ hq _ => hq, fun _ _ hq => hq, fun _ _ hq => hq, fun _ _ _ hq _ => hq⟩ h f p rfl

theorem sat_subst_two (G : Graph) (K : SemCtx) (g1 g2 : Tree) (w1 w2 : Name) (f : Tree) (p : Point)
    (h1 : ∀ q : Point, q.c = p.c → (sat G K (.atom (.wild w1)) q ↔ sat G K g1 q))
    (h2 : ∀ q : Point, q.c = p.c → (sat G K (.atom (.wild w2)) q ↔ sat G K g2 q)) :
    sat G K (substAll g2 w2 (substAll g1 w1 f)) p ↔ sat G K f p :=
  (sat_subst G K g2 w2 _ p h2).trans (sat_subst G K g1 w1 f p h1)

theorem wild_iff_of_exact {G : Graph} {K : SemCtx} {w : Name} {r : CSet} (hb : K.wild w = some r) {q : Point}
    {φ : Prop} (hr : r q = true ↔ (G.valid q.c = true ∧ φ)) (hv : G.valid q.c = true) :
    sat G K (.atom (.wild w)) q ↔ φ := by
  simp only [sat, hb]
  constructor
  · rintro ⟨a, ha, h⟩
    cases ha
    exact (hr.mp h).2
  · intro h
    exact ⟨_, rfl, hr.mpr ⟨hv, h⟩⟩

/-- A wild-card bound to the raw result of a closed formula `g` holds, on valid colours, exactly where `g` does: the
premise of `sat_subst` as `model_check_formula_dirty` produces it. -/
theorem raw_result_as_wild {E : Env} (hE : EnvOK E) (hG : GraphWF E.G) (K : SemCtx) (hK : CtxOK E K)
    (g : Tree) (hw : WellNamed E.G.k 0 g) (hd : DomsIn K g) (w : Name)
    (hbound : K.wild w = some (evalTop E K g)) :
    ∀ q ∈ E.pts, E.G.valid q.c = true → (sat E.G K (.atom (.wild w)) q ↔ sat E.G K g q) :=
  fun q hq hv => wild_iff_of_exact hbound (evalTop_correct hE hG K hK g hw hd q hq) hv

theorem ext_empty_ctx (ctx : ECtx) : ctx.extendWithWildCards [] [] = ctx := by
  simp [ECtx.extendWithWildCards]

example : substAll (.un .ef (.atom (.prop ['a']))) ['w']
    (.bin .and (.un .ef (.atom (.prop ['a']))) (.un .ax (.un .ef (.atom (.prop ['a'])))))
    = .bin .and (.atom (.wild ['w'])) (.un .ax (.atom (.wild ['w']))) := by decide

section
variable {E : Env} (hE : EnvOK E) (hG : GraphWF E.G)
include hE hG

/-- `sat_subst` on the universe: it suffices that `%w%` and `g` agree on the points of the universe with the colour of `p` -/
theorem sat_subst_on (K : SemCtx) (g : Tree) (w : Name) (c0 : Nat)
    (h : ∀ q ∈ E.pts, q.c = c0 → (sat E.G K (.atom (.wild w)) q ↔ sat E.G K g q)) :
    ∀ f p, p ∈ E.pts → p.c = c0 → (sat E.G K (substAll g w f) p ↔ sat E.G K f p) :=
  fun f p hp hc => sat_subst_closed E.G K g w (fun q => q ∈ E.pts ∧ q.c = c0)
    ⟨fun _ _ hq ht => ⟨hE.setS_mem hq.1 (Hctl.R_lt hE hG hq.1 ht), hq.2⟩,
     fun _ _ hq => ⟨hE.setS_mem hq.1 (hE.getV_lt _ hq.1), hq.2⟩,
     fun _ _ hq => ⟨hE.setV_mem hq.1 (hE.s_lt hq.1), hq.2⟩,
     fun _ _ _ hq ht => ⟨hE.setV_mem hq.1 ht, hq.2⟩⟩
    (fun q hq => h q hq.1 hq.2) f p ⟨hp, hc⟩

end

theorem sat_ctx_congr (G : Graph) (K1 K2 : SemCtx) (hd : K1.dom = K2.dom) :
    ∀ t, (∀ w ∈ wildLabels t, K1.wild w = K2.wild w) → ∀ p, (sat G K1 t p ↔ sat G K2 t p) :=
  fun t h => sat_ctx_agree G K1 K2 t h (fun d _ => by rw [hd])

def setWild (K : SemCtx) (w : Name) (a : CSet) : SemCtx := ⟨fun n => if n = w then some a else K.wild n, K.dom⟩

/-- the two contexts have the same domain sets -/
theorem domsIn_setWild {K : SemCtx} (w : Name) (a : CSet) {f : Tree} (h : DomsIn K f) : DomsIn (setWild K w a) f :=
  (domsIn_iff _ f).mpr ((domsIn_iff K f).mp h)

theorem wellNamed_subst (k : Nat) (g : Tree) (w : Name) : ∀ (f : Tree) (d : Nat), WellNamed k d f → WellNamed k d (substAll g w f) := by
  intro f
  induction f with
  | atom a => intro d h; simp only [substAll]; split <;> simp_all [WellNamed]
  | un o c ih => intro d h; simp only [substAll]; split; simp [WellNamed]; exact ih d h
  | bin o l r ihl ihr => intro d h; simp only [substAll]; split; simp [WellNamed]; exact ⟨ihl d h.1, ihr d h.2⟩
  | hyb o x dom c ih =>
    intro d h
    simp only [substAll]
    split
    · simp [WellNamed]
    · by_cases hj : o = .jump
      · simp only [WellNamed, hj, if_true] at h ⊢; exact ih d h
      · simp only [WellNamed, hj, if_false] at h ⊢; exact ⟨h.1, h.2.1, ih (d + 1) h.2.2⟩

theorem domsIn_subst (K : SemCtx) (g : Tree) (w : Name) : ∀ (f : Tree), DomsIn K f → DomsIn K (substAll g w f) := by
  intro f
  induction f with
  | atom a => intro h; simp only [substAll]; split <;> simp [DomsIn]
  | un o c ih => intro h; simp only [substAll]; split; simp [DomsIn]; exact ih h
  | bin o l r ihl ihr => intro h; simp only [substAll]; split; simp [DomsIn]; exact ⟨ihl h.1, ihr h.2⟩
  | hyb o x dom c ih =>
    intro h
    simp only [substAll]
    split
    · simp [DomsIn]
    · cases dom with
      | none => simp only [DomsIn] at h ⊢; exact ih h
      | some l => simp only [DomsIn] at h ⊢; exact ⟨h.1, ih h.2⟩

/-- Evaluating `f` with the closed sub-formula `g` replaced by a fresh wild-card bound to the raw result of `g` gives the
result of evaluating `f`. -/
theorem substitute_raw_result {E : Env} (hE : EnvOK E) (hG : GraphWF E.G) (K : SemCtx) (hK : CtxOK E K) (f g : Tree)
    (w : Name) (hwf : WellNamed E.G.k 0 f) (hdf : DomsIn K f) (hwg : WellNamed E.G.k 0 g) (hdg : DomsIn K g)
    (hfresh_f : w ∉ wildLabels f) (hfresh_g : w ∉ wildLabels g) :
    ∀ p ∈ E.pts, evalTop E (setWild K w (evalTop E K g)) (substAll g w f) p = evalTop E K f p := by
  intro p hp
  have hK' : CtxOK E (setWild K w (evalTop E K g)) := ⟨hK.domIndep⟩
  have e1 := evalTop_correct hE hG _ hK' (substAll g w f) (wellNamed_subst _ g w f 0 hwf)
    (domsIn_subst _ g w f (domsIn_setWild w _ hdf)) p hp
  have e2 := evalTop_correct hE hG K hK f hwf hdf p hp
  apply Bool.eq_iff_iff.mpr
  rw [e1, e2]
  apply and_congr_right
  intro hv
  have hagree : ∀ t, w ∉ wildLabels t → ∀ q, (sat E.G (setWild K w (evalTop E K g)) t q ↔ sat E.G K t q) := by
    intro t ht q
    apply sat_ctx_congr E.G (setWild K w (evalTop E K g)) K rfl t
    intro x hx
    have : x ≠ w := fun h => ht (h ▸ hx)
    simp [setWild, this]
  rw [sat_subst_on hE hG _ g w p.c ?_ f p hp rfl]
  · exact hagree f hfresh_f p
  · intro q hq hqc
    rw [hagree g hfresh_g q]
    exact wild_iff_of_exact (by simp [setWild]) (evalTop_correct hE hG K hK g hwg hdg q hq) (hqc ▸ hv)

variable (E : Env) (K : CharClass) (hK : Lex.CharOK K)
include hK

theorem parseAll_plain_ext : ∀ (fs : List (List Char)), (∀ f ∈ fs, ∃ ts, Lex.tokenize K false f = .ok ts) →
    Api.parseAll E K true [] fs = Api.parseAll E K false [] fs := by
  intro fs
  induction fs with
  | nil => intro _; rfl
  | cons f fs ih =>
    intro h
    obtain ⟨ts, hts⟩ := h f (by simp)
    have hpo : Api.parseOne E K true f = Api.parseOne E K false f := by
      unfold Api.parseOne
      rw [(Lex.tokenize_ext_of_plain K hK f ts hts).1, hts]
    rw [parseAll_cons, parseAll_cons, hpo, ih (fun g hg => h g (by simp [hg]))]
    cases hp : Api.parseOne E K false f with
    | error e => rfl
    | ok t =>
      -- a plain tree has no labels to look up
      have : ctxFor true [] t = ctxFor false [] t := by
        simp [ctxFor, wildCards_plain t _ (parseOne_plain E K hK f t hp), Api.lookupAll]
      simp only [this]

/-- `model_check_multiple_extended_formulae_dirty(fs, graph, {})` = `model_check_multiple_formulae_dirty(fs, graph)` for
texts the plain tokenizer accepts, results and error values alike. -/
theorem plain_through_extended (U : CSet) (fs : List (List Char)) (h : ∀ f ∈ fs, ∃ ts, Lex.tokenize K false f = .ok ts) :
    Api.extendedDirty E K U [] fs = Api.formulaeDirty E K U fs := by
  rw [extendedDirty_eq_batch, formulaeDirty_eq_batch]
  unfold batchDirty
  rw [parseAll_plain_ext E K hK fs h]

end Hctl.C10
