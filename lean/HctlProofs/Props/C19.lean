/-
  C19 — the aeon-to-bnet converter preserves the family of update functions.
-/
import HctlModel.Glue
namespace Hctl.C19
open Hctl.Convert

/-- the decision tree of `explode_function` selects the fresh constant named by the argument values -/
theorem explode_semantics (taken : List (List Char)) (env : Nat → Bool) (κ : List Char → List Bool → Bool) :
    ∀ (as : List Fn) (pre : List Char),
      eval env κ (explode taken as pre) = κ (fresh taken (pre ++ bitsOf (evalList env κ as))) [] := by
  intro as
  induction as with
  | nil => intro pre; simp [explode, eval, evalList, bitsOf]
  | cons a as ih =>
    intro pre
    simp only [explode, eval, evalList, BOp.eval, ih]
    cases h : eval env κ a <;> simp [bitsOf, List.append_assoc]

mutual
/-- under a valuation `κ0` of the fresh constants the flattened function computes the original with every symbol
instantiated by `f(b₁…bₙ) := κ0 "f_b₁…bₙ"` -/
theorem flatten_semantics (taken : List (List Char)) (env : Nat → Bool) (κ0 : List Char → Bool) :
    ∀ f : Fn, eval env (constsOnly κ0) (flatten taken f) = eval env (induced taken κ0) f
  | .const b => by simp [flatten, eval]
  | .var i => by simp [flatten, eval]
  | .not f => by simp [flatten, eval, flatten_semantics taken env κ0 f]
  | .bin o l r => by simp [flatten, eval, flatten_semantics taken env κ0 l, flatten_semantics taken env κ0 r]
  | .param name args => by
    simp only [flatten, eval, explode_semantics, flattenList_semantics taken env κ0 args]
    simp [constsOnly, induced, List.append_assoc]
theorem flattenList_semantics (taken : List (List Char)) (env : Nat → Bool) (κ0 : List Char → Bool) :
    ∀ fs : List Fn, evalList env (constsOnly κ0) (flattenList taken fs) = evalList env (induced taken κ0) fs
  | [] => by simp [flattenList, evalList]
  | f :: fs => by simp [flattenList, evalList, flatten_semantics taken env κ0 f, flattenList_semantics taken env κ0 fs]
end

theorem evalList_eq_map (env : Nat → Bool) (κ : List Char → List Bool → Bool) (fs : List Fn) :
    evalList env κ fs = fs.map (eval env κ) := by
  induction fs with
  | nil => rfl
  | cons f fs ih => rw [evalList, ih, List.map_cons]

/-- an implicit update function is the symbol `<variable>` applied to the regulators -/
theorem implicit_semantics (taken : List (List Char)) (env : Nat → Bool) (κ0 : List Char → Bool) (varName : List Char)
    (regs : List Nat) :
    eval env (constsOnly κ0) (explode taken (regs.map Fn.var) (varName ++ ['_']))
      = induced taken κ0 varName (regs.map env) := by
  have : evalList env (constsOnly κ0) (regs.map Fn.var) = regs.map env := by
    rw [evalList_eq_map, List.map_map]
    exact List.map_congr_left fun i _ => by rw [Function.comp_apply, eval]
  simp [explode_semantics, this, constsOnly, induced, List.append_assoc]

theorem bitsOf_no_underscore (bs : List Bool) : '_' ∉ bitsOf bs := by
  intro h
  obtain ⟨b, _, hb⟩ := List.mem_map.mp h
  cases b <;> exact absurd hb (by decide)

theorem bitsOf_inj {a b : List Bool} (h : bitsOf a = bitsOf b) : a = b :=
  (List.map_inj_right (fun x y => by cases x <;> cases y <;> decide)).mp h

theorem append_cons_inj_of_not_mem {α : Type} {a : α} {l₁ l₂ r₁ r₂ : List α} (h1 : a ∉ r₁) (h2 : a ∉ r₂)
    (h : l₁ ++ a :: r₁ = l₂ ++ a :: r₂) : l₁ = l₂ ∧ r₁ = r₂ := by
  -- one left part is a prefix of the other; a proper prefix would put `a` into the right part that follows it
  rcases List.append_eq_append_iff.mp h with ⟨m, rfl, hm⟩ | ⟨m, rfl, hm⟩
  · cases m with
    | nil => exact ⟨(List.append_nil _).symm, by simpa using hm⟩
    | cons x m =>
      obtain ⟨rfl, rfl⟩ := List.cons.inj hm
      exact absurd (List.mem_append_right m List.mem_cons_self) h1
  · cases m with
    | nil => exact ⟨List.append_nil _, by simpa using hm.symm⟩
    | cons x m =>
      obtain ⟨rfl, rfl⟩ := List.cons.inj hm
      exact absurd (List.mem_append_right m List.mem_cons_self) h2

/-- the name of a generated constant determines its symbol and its row of argument values -/
theorem explode_names_injective {n1 n2 : List Char} {b1 b2 : List Bool}
    (h : n1 ++ '_' :: bitsOf b1 = n2 ++ '_' :: bitsOf b2) : n1 = n2 ∧ b1 = b2 := by
  have := append_cons_inj_of_not_mem (bitsOf_no_underscore b1) (bitsOf_no_underscore b2) h
  exact ⟨this.1, bitsOf_inj this.2⟩

def underscores (k : Nat) : List Char := List.replicate k '_'

theorem underscores_succ (k : Nat) (x : List Char) : x ++ underscores (k + 1) = (x ++ ['_']) ++ underscores k := by
  simp [underscores, List.replicate_succ]

/-- `fresh` appends the least number of underscores that gives no variable name -/
theorem fresh_spec (taken : List (List Char)) (x : List Char) :
    ∃ k, fresh taken x = x ++ underscores k ∧ (∀ i, i < k → x ++ underscores i ∈ taken) ∧
      x ++ underscores k ∉ taken := by
  induction x using fresh.induct taken with
  | case1 x h ih =>
    obtain ⟨k, h1, h2, h3⟩ := ih
    refine ⟨k + 1, ?_, ?_, ?_⟩
    · rw [fresh, dif_pos h, h1, underscores_succ]
    · intro i hi
      cases i with
      | zero => simpa [underscores] using h
      | succ j => rw [underscores_succ]; exact h2 j (by omega)
    · rw [underscores_succ]; exact h3
  | case2 x h =>
    refine ⟨0, ?_, ?_, ?_⟩
    · rw [fresh, dif_neg h]; simp [underscores]
    · intro i hi; omega
    · simpa [underscores] using h

/-- the generated constants are never named like a variable, so `add_parameter` cannot refuse them -/
theorem generated_not_variable (taken : List (List Char)) (x : List Char) : fresh taken x ∉ taken := by
  obtain ⟨k, h1, _, h3⟩ := fresh_spec taken x
  rw [h1]; exact h3

theorem fresh_id {taken : List (List Char)} {x : List Char} (h : x ∉ taken) : fresh taken x = x := by
  rw [fresh, dif_neg h]

/-- the library's name-space rule: a zero-arity parameter is not named like a variable -/
def Sym (taken : List (List Char)) (n : List Char) (bs : List Bool) : Prop := bs = [] → n ∉ taken

theorem append_underscores_eq {x y : List Char} {k1 k2 : Nat} (hle : k2 ≤ k1)
    (h : x ++ underscores k1 = y ++ underscores k2) :
    ∃ d, d ≤ k1 ∧ x ++ underscores d = y := by
  obtain ⟨d, rfl⟩ := Nat.exists_eq_add_of_le' hle
  rw [underscores, ← List.replicate_append_replicate, ← List.append_assoc] at h
  exact ⟨d, Nat.le_add_right d k2, List.append_cancel_right h⟩

theorem fresh_eq_fresh {taken : List (List Char)} {x y : List Char} (h : fresh taken x = fresh taken y) :
    (∃ d, x ++ underscores d = y ∧ ∀ i, i < d → x ++ underscores i ∈ taken) ∨
    (∃ d, y ++ underscores d = x ∧ ∀ i, i < d → y ++ underscores i ∈ taken) := by
  obtain ⟨k1, e1, t1, _⟩ := fresh_spec taken x
  obtain ⟨k2, e2, t2, _⟩ := fresh_spec taken y
  rw [e1, e2] at h
  rcases Nat.le_total k2 k1 with hle | hle
  · obtain ⟨d, hd, hx⟩ := append_underscores_eq hle h
    exact Or.inl ⟨d, hx, fun i hi => t1 i (Nat.lt_of_lt_of_le hi hd)⟩
  · obtain ⟨d, hd, hx⟩ := append_underscores_eq hle h.symm
    exact Or.inr ⟨d, hx, fun i hi => t2 i (Nat.lt_of_lt_of_le hi hd)⟩

theorem generated_append_underscores {taken : List (List Char)} {m1 m2 : List Char} {c1 c2 : List Bool} {d : Nat}
    (hs : Sym taken m2 c2) (ht : ∀ i, i < d → (m1 ++ '_' :: bitsOf c1) ++ underscores i ∈ taken)
    (hx : (m1 ++ '_' :: bitsOf c1) ++ underscores d = m2 ++ '_' :: bitsOf c2) : m1 = m2 ∧ c1 = c2 := by
  cases d with
  | zero => exact explode_names_injective (by simpa [underscores] using hx)
  | succ d =>
    -- the right-hand name ends in '_': `m2` has no arguments and is the left name plus `d` underscores, which is taken
    rw [underscores, List.replicate_succ', ← List.append_assoc] at hx
    obtain ⟨hm, hc⟩ := append_cons_inj_of_not_mem (r₁ := []) List.not_mem_nil (bitsOf_no_underscore c2) hx
    exact absurd (hm ▸ ht d (Nat.lt_succ_self d)) (hs (List.map_eq_nil_iff.mp hc.symm))

/-- generated constants of two different legitimate symbols never coincide, also after the renaming -/
theorem fresh_names_injective (taken : List (List Char)) {n1 n2 : List Char} {b1 b2 : List Bool}
    (s1 : Sym taken n1 b1) (s2 : Sym taken n2 b2)
    (h : fresh taken (n1 ++ '_' :: bitsOf b1) = fresh taken (n2 ++ '_' :: bitsOf b2)) : n1 = n2 ∧ b1 = b2 := by
  rcases fresh_eq_fresh h with ⟨d, hx, ht⟩ | ⟨d, hx, ht⟩
  · exact generated_append_underscores s2 ht hx
  · have := generated_append_underscores s1 ht hx
    exact ⟨this.1.symm, this.2.symm⟩

/-- every instantiation of the legitimate symbols is induced by some valuation of the fresh constants -/
theorem every_instantiation_induced (taken : List (List Char)) (κ : List Char → List Bool → Bool) :
    ∃ κ0 : List Char → Bool, ∀ n bs, Sym taken n bs → induced taken κ0 n bs = κ n bs := by
  classical
  -- `κ0` reads a generated name back to its symbol, which `fresh_names_injective` makes unique
  refine ⟨fun s => if h : ∃ p : List Char × List Bool, Sym taken p.1 p.2 ∧ s = fresh taken (p.1 ++ '_' :: bitsOf p.2)
    then κ (Classical.choose h).1 (Classical.choose h).2 else false, ?_⟩
  intro n bs hsym
  have hex : ∃ p : List Char × List Bool, Sym taken p.1 p.2 ∧
      fresh taken (n ++ '_' :: bitsOf bs) = fresh taken (p.1 ++ '_' :: bitsOf p.2) := ⟨(n, bs), hsym, rfl⟩
  simp only [induced, dif_pos hex]
  have hs := Classical.choose_spec hex
  obtain ⟨h1, h2⟩ := fresh_names_injective taken hsym hs.1 hs.2
  rw [← h1, ← h2]

mutual
def SymsOK (taken : List (List Char)) : Fn → Prop
  | .const _ => True
  | .var _ => True
  | .not f => SymsOK taken f
  | .bin _ l r => SymsOK taken l ∧ SymsOK taken r
  | .param n args => (args = [] → n ∉ taken) ∧ SymsOKList taken args
def SymsOKList (taken : List (List Char)) : List Fn → Prop
  | [] => True
  | f :: fs => SymsOK taken f ∧ SymsOKList taken fs
end

mutual
theorem eval_congr (taken : List (List Char)) (env : Nat → Bool) (κ1 κ2 : List Char → List Bool → Bool)
    (h : ∀ n bs, Sym taken n bs → κ1 n bs = κ2 n bs) : ∀ f : Fn, SymsOK taken f → eval env κ1 f = eval env κ2 f
  | .const b, _ => by simp [eval]
  | .var i, _ => by simp [eval]
  | .not f, hf => by simp [eval, eval_congr taken env κ1 κ2 h f hf]
  | .bin o l r, hf => by simp [eval, eval_congr taken env κ1 κ2 h l hf.1, eval_congr taken env κ1 κ2 h r hf.2]
  | .param n args, hf => by
    simp only [eval, evalList_congr taken env κ1 κ2 h args hf.2]
    refine h _ _ fun hnil => hf.1 ?_
    rwa [evalList_eq_map, List.map_eq_nil_iff] at hnil
theorem evalList_congr (taken : List (List Char)) (env : Nat → Bool) (κ1 κ2 : List Char → List Bool → Bool)
    (h : ∀ n bs, Sym taken n bs → κ1 n bs = κ2 n bs) : ∀ fs : List Fn, SymsOKList taken fs → evalList env κ1 fs = evalList env κ2 fs
  | [], _ => by simp [evalList]
  | f :: fs, hf => by simp [evalList, eval_congr taken env κ1 κ2 h f hf.1, evalList_congr taken env κ1 κ2 h fs hf.2]
end

/-- one valuation for all states: the flattened and the instantiated function are the same function -/
theorem flatten_family_uniform (taken : List (List Char)) (f : Fn) (hf : SymsOK taken f) :
    (∀ κ0, ∃ κ, ∀ env, eval env (constsOnly κ0) (flatten taken f) = eval env κ f) ∧
    (∀ κ, ∃ κ0, ∀ env, eval env (constsOnly κ0) (flatten taken f) = eval env κ f) := by
  refine ⟨fun κ0 => ⟨induced taken κ0, fun env => flatten_semantics taken env κ0 f⟩, fun κ => ?_⟩
  obtain ⟨κ0, h⟩ := every_instantiation_induced taken κ
  exact ⟨κ0, fun env => (flatten_semantics taken env κ0 f).trans (eval_congr taken env _ _ h f hf)⟩

/-- the flattened function takes exactly the values of the instantiations of the input function — state by state:
`env` is fixed before the valuations -/
theorem flatten_family (taken : List (List Char)) (f : Fn) (hf : SymsOK taken f) (env : Nat → Bool) :
    (∀ κ0, ∃ κ, eval env (constsOnly κ0) (flatten taken f) = eval env κ f) ∧
    (∀ κ, ∃ κ0, eval env (constsOnly κ0) (flatten taken f) = eval env κ f) :=
  have ⟨h1, h2⟩ := flatten_family_uniform taken f hf
  ⟨fun κ0 => (h1 κ0).imp fun _ h => h env, fun κ => (h2 κ).imp fun _ h => h env⟩

theorem implicit_family_uniform (taken : List (List Char)) (varName : List Char) (regs : List Nat) (hr : regs ≠ [])
    (κ : List Bool → Bool) :
    ∃ κ0, ∀ env, eval env (constsOnly κ0) (explode taken (regs.map Fn.var) (varName ++ ['_'])) = κ (regs.map env) := by
  obtain ⟨κ0, h⟩ := every_instantiation_induced taken (fun _ => κ)
  exact ⟨κ0, fun env => (implicit_semantics taken env κ0 varName regs).trans
    (h varName (regs.map env) fun hnil => absurd (List.map_eq_nil_iff.mp hnil) hr)⟩

/-- the same for an implicit update function -/
theorem implicit_family (taken : List (List Char)) (varName : List Char) (regs : List Nat) (hr : regs ≠ []) (env : Nat → Bool) :
    ∀ κ : List Bool → Bool, ∃ κ0, eval env (constsOnly κ0) (explode taken (regs.map Fn.var) (varName ++ ['_']))
      = κ (regs.map env) :=
  fun κ => (implicit_family_uniform taken varName regs hr κ).imp fun _ h => h env

def NoParams : Fn → Prop
  | .const _ => True
  | .var _ => True
  | .not f => NoParams f
  | .bin _ l r => NoParams l ∧ NoParams r
  | .param _ _ => False

theorem flatten_specified (taken : List (List Char)) : ∀ f : Fn, NoParams f → flatten taken f = f
  | .const b, _ => by simp [flatten]
  | .var i, _ => by simp [flatten]
  | .not f, h => by simp [flatten, flatten_specified taken f h]
  | .bin o l r, h => by simp [flatten, flatten_specified taken l h.1, flatten_specified taken r h.2]
  | .param _ _, h => by cases h

/-- a variable with neither regulators nor a function remains a free input -/
theorem no_regulators_untouched (taken : List (List Char)) (varName : List Char) :
    flattenVar taken varName [] none = none := by simp [flattenVar]

/-- a variable with an update function gets the flattened function, also without regulators (`$a: k`) -/
theorem specified_always_flattened (taken : List (List Char)) (varName : List Char) (regs : List Nat) (f : Fn) :
    flattenVar taken varName regs (some f) = some (flatten taken f) := by simp [flattenVar]

theorem implicit_exploded (taken : List (List Char)) (varName : List Char) (regs : List Nat) (hr : regs ≠ []) :
    flattenVar taken varName regs none = some (explode taken (regs.map Fn.var) (varName ++ ['_'])) := by
  cases regs with
  | nil => exact absurd rfl hr
  | cons r rs => simp [flattenVar]

/-! `f(g(b))` is flattened inside out; a constant named like a variable gets an underscore -/
example : flatten [] (.param ['f'] [.param ['g'] [.var 1]]) =
    explode [] [explode [] [.var 1] "g_".toList] "f_".toList := by
  simp [flatten, flattenList]
example : fresh ["f_0".toList] "f_0".toList = "f_0_".toList := by
  decide +kernel

end Hctl.C19
