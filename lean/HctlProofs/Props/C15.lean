/-
  C15 — sanitised results equal raw results and do not depend on the number of spare variable sets.
-/
import HctlProofs.Lemmas.EntryPoints
namespace Hctl.C15

/-- two graphs that differ in the number of spare variable sets only -/
structure SameButK (G G' : Graph) : Prop where
  nV : G.nV = G'.nV
  nS : G.nS = G'.nS
  nC : G.nC = G'.nC
  valid : G.valid = G'.valid
  step : G.step = G'.step
  label : G.label = G'.label

theorem SameButK.agreeCol {G G' : Graph} (h : SameButK G G') (c : Nat) : AgreeCol G G' c c :=
  ⟨h.nV, h.nS, fun _ _ => by rw [h.step], h.label⟩

/-- two exact results for the same closed formula, on graphs that differ in the number of spare variable sets only,
coincide as (state, colour) sets -/
theorem k_irrelevant_sem {E E' : Env} (hE : EnvOK E) (hG : GraphWF E.G) (hE' : EnvOK E') (hG' : GraphWF E'.G)
    (hsame : SameButK E.G E'.G) (K : SemCtx) (hSC : CtxSC K) (k0 : Nat) (hk : k0 ≤ E.G.k) (hk' : k0 ≤ E'.G.k)
    (t : Tree) (hw : WellScoped k0 0 t) (r r' : CSet) (hr : Sem E r E.G.unit0 (sat E.G K t))
    (hr' : Sem E' r' E'.G.unit0 (sat E'.G K t))
    (s c : Nat) (v v' : List Nat) (hmem : (⟨s, c, v⟩ : Point) ∈ E.pts) (hmem' : (⟨s, c, v'⟩ : Point) ∈ E'.pts) :
    r ⟨s, c, v⟩ = r' ⟨s, c, v'⟩ :=
  hr.eq_at hr' hmem hmem' (by simp [Graph.unit0, hsame.valid]) fun _ =>
    (sat_agree (hsame.agreeCol c) K (fun _ _ _ _ _ => rfl) (fun _ _ _ _ _ => rfl) t s v).trans
      (sat_valuation_agree E'.G K hSC k0 t 0 s c v v' hw (Nat.le_trans hk (Nat.le_of_eq (hE.len_v hmem).symm))
        (Nat.le_trans hk' (Nat.le_of_eq (hE'.len_v hmem').symm)) (fun _ hi => nomatch hi))

/-- for a closed plain formula the (state, colour) set is the same whatever number `≥ k0` of spare variable sets the
graph was built with -/
theorem k_irrelevant {E E' : Env} (hE : EnvOK E) (hG : GraphWF E.G) (hE' : EnvOK E') (hG' : GraphWF E'.G)
    (hsame : SameButK E.G E'.G) (k0 : Nat) (hk : k0 ≤ E.G.k) (hk' : k0 ≤ E'.G.k)
    (t : Tree) (hw : WellScoped k0 0 t) (hwk : WellNamed E.G.k 0 t) (hwk' : WellNamed E'.G.k 0 t) (hp : Plain t)
    (s c : Nat) (v v' : List Nat) (hmem : (⟨s, c, v⟩ : Point) ∈ E.pts) (hmem' : (⟨s, c, v'⟩ : Point) ∈ E'.pts) :
    evalTop E noCtx t ⟨s, c, v⟩ = evalTop E' noCtx t ⟨s, c, v'⟩ :=
  k_irrelevant_sem hE hG hE' hG' hsame noCtx ctxSC_noCtx k0 hk hk' t hw _ _
    (evalTop_correct hE hG noCtx (ctxOK_noCtx E) t hwk (hp.domsIn noCtx))
    (evalTop_correct hE' hG' noCtx (ctxOK_noCtx E') t hwk' (hp.domsIn noCtx)) s c v v' hmem hmem'

/-- An exact set for a closed formula (from any evaluator, cached or not) does not depend on the spare variables:
sanitising succeeds and returns the raw set read at any valuation. -/
theorem sanitize_of_sem {E : Env} (hE : EnvOK E) (hG : GraphWF E.G) (K : SemCtx) (hSC : CtxSC K) (t : Tree)
    (hw : WellScoped E.G.k 0 t) (r : CSet) (hr : Sem E r E.G.unit0 (sat E.G K t)) :
    Api.dependsOnSpare E r = false ∧
    ∃ f, Api.sanitize E r = some f ∧ ∀ s c v, (⟨s, c, v⟩ : Point) ∈ E.pts → f s c = r ⟨s, c, v⟩ := by
  have hdep : Api.dependsOnSpare E r = false := by
    apply Bool.eq_false_iff.mpr
    intro h
    simp only [Api.dependsOnSpare, List.any_eq_true, List.mem_range] at h
    obtain ⟨p, hpm, i, _, x, hx, hne⟩ := h
    have : r p = r (p.setV i x) := Sem.indep_spare hE hSC hw hr hpm (hE.setV_mem hpm hx)
    simp [this] at hne
  refine ⟨hdep, fun s c => r ⟨s, c, List.replicate E.G.k 0⟩, by simp [Api.sanitize, hdep], ?_⟩
  intro s c v hmem
  have hz : (⟨s, c, List.replicate E.G.k 0⟩ : Point) ∈ E.pts :=
    hE.pts_eq ▸ zeroPt_mem_points E.G s c (hE.s_lt hmem) (hE.mem_pts.mp hmem).2.1
  exact Sem.indep_spare hE hSC hw hr hz hmem

theorem sanitize_succeeds {E : Env} (hE : EnvOK E) (hG : GraphWF E.G) (t : Tree)
    (hw : WellScoped E.G.k 0 t) (hp : Plain t) :
    Api.dependsOnSpare E (evalTop E noCtx t) = false :=
  (sanitize_of_sem hE hG noCtx ctxSC_noCtx t hw _
    (evalTop_correct hE hG noCtx (ctxOK_noCtx E) t hw.wellNamed (hp.domsIn noCtx))).1

theorem sanitize_eq_raw {E : Env} (hE : EnvOK E) (hG : GraphWF E.G) (t : Tree)
    (hw : WellScoped E.G.k 0 t) (hp : Plain t) :
    ∃ f, Api.sanitize E (evalTop E noCtx t) = some f ∧
      ∀ s c v, (⟨s, c, v⟩ : Point) ∈ E.pts → f s c = evalTop E noCtx t ⟨s, c, v⟩ :=
  (sanitize_of_sem hE hG noCtx ctxSC_noCtx t hw _
    (evalTop_correct hE hG noCtx (ctxOK_noCtx E) t hw.wellNamed (hp.domsIn noCtx))).2

/-- every set the plain string entry point returns can be sanitised to its raw set -/
theorem formulaeDirty_sanitisable {C : CharClass} (hC : Lex.CharsOK C) {E : Env} (hE : EnvOK E) (hG : GraphWF E.G)
    (hA : C12.GraphAsync E.G) (fs : List (List Char)) (rs : List CSet)
    (h : Api.formulaeDirty E C E.G.unit0 fs = .ok rs) :
    ∀ r ∈ rs, ∃ f, Api.sanitize E r = some f ∧ ∀ s c v, (⟨s, c, v⟩ : Point) ∈ E.pts → f s c = r ⟨s, c, v⟩ := by
  rcases formulaeDirty_correct hC hE hG hA fs with ⟨e, _, he⟩ | ⟨trees, ps, ds, rs', hp, hrs, hlen, hall⟩
  · rw [he] at h; cases h
  · rw [hrs] at h
    simp only [Outcome.ok.injEq] at h
    subst h
    intro r hr
    obtain ⟨i, hi, rfl⟩ := List.getElem_of_mem hr
    have hi' : i < trees.length := by omega
    obtain ⟨⟨cs, hcs⟩, _⟩ := (parseAll_spec E C hC.charOK false [] fs trees ps ds hp).1 trees[i] (List.getElem_mem hi')
    exact (sanitize_of_sem hE hG noCtx ctxSC_noCtx trees[i] (parseOne_wellScoped C false cs _ hcs) rs'[i]
      (fun p hpp => hall i hi' hi p hpp)).2

end Hctl.C15
