/-
  C12 — attractor and steady-state shortcuts agree with generic evaluation everywhere.
-/
import HctlProofs.Lemmas.Reach
import HctlProofs.Lemmas.EvalCorrect
namespace Hctl.C12
open Kripke

/-- the shortcuts are taken for exactly the two patterns -/
theorem attractor_pattern_exact (t : Tree) :
    isAttractorPattern t = true ↔ ∃ x, t = .hyb .bind x none (.un .ag (.un .ef (.atom (.var x)))) := by
  constructor
  · intro h
    unfold isAttractorPattern at h
    split at h
    · rename_i v1 v2
      have : v1 = v2 := by simpa using h
      subst this
      exact ⟨v1, rfl⟩
    · cases h
  · rintro ⟨x, rfl⟩
    simp [isAttractorPattern]

theorem fixedPoint_pattern_exact (t : Tree) :
    isFixedPointPattern t = true ↔ ∃ x, t = .hyb .bind x none (.un .ax (.atom (.var x))) := by
  constructor
  · intro h
    unfold isFixedPointPattern at h
    split at h
    · rename_i v1 v2
      have : v1 = v2 := by simpa using h
      subst this
      exact ⟨v1, rfl⟩
    · cases h
  · rintro ⟨x, rfl⟩
    simp [isFixedPointPattern]

variable {E : Env} (hE : EnvOK E) (hG : GraphWF E.G) (hA : GraphAsync E.G)
include hE hG hA

/-- The steady-state shortcut (pre-computed steady set ∩ current unit) is the satisfaction set of `!{x}: AX {x}` in any
admissible universe: at top level, under other operators, inside domain scopes. -/
theorem steady_shortcut_correct {U0 st U : CSet} {d : Nat} (hU : UnitOK E U0 st U d) (x : Name)
    (hx : varId x = d) (hdk : d < E.G.k) (K : SemCtx) :
    Sem E (st.inter U) U (sat E.G K (.hyb .bind x none (.un .ax (.atom (.var x))))) := by
  intro p hp
  have hlen : varId x < p.v.length := by rw [hE.len_v hp, hx]; exact hdk
  simp only [CSet.inter, Bool.and_eq_true, sat, inDom, true_and, setV_c, setV_s]
  rw [hU.steady p hp]
  constructor
  · rintro ⟨⟨_, hst⟩, hu⟩
    refine ⟨hu, ?_⟩
    rintro t (⟨j, hj, hs⟩ | ⟨_, rfl⟩)
    · rw [hst j hj] at hs; cases hs
    · simp [setV_getV_same p _ _ hlen]
  · rintro ⟨hu, hall⟩
    refine ⟨⟨hU.sub0 p hp hu, ?_⟩, hu⟩
    intro j hj
    cases hs : E.G.step p.c j p.s with
    | none => rfl
    | some t =>
      exfalso
      have := hall t (Or.inl ⟨j, hj, hs⟩)
      simp only [setS_getV, setV_getV_same p _ _ hlen, setS_s] at this
      exact hA.step_ne _ _ _ _ hs this.symm

theorem steady_shortcut_eq_generic {U0 st U : CSet} {d : Nat} (hU : UnitOK E U0 st U d) (x : Name)
    (hx : varId x = d) (hdk : d < E.G.k) (K : SemCtx) (hK : CtxOK E K) :
    EqOn E.pts (st.inter U)
      (Eval.evalPure E st K.wild K.dom (.hyb .bind x none (.un .ax (.atom (.var x)))) U) :=
  (steady_shortcut_correct hE hG hA hU x hx hdk K).eqOn
    (evalPure_correct hE hG K hK U0 st _ d U (by simp [WellNamed, hx, hdk]) (by simp [DomsIn]) hU)

omit hA in
/-- The attractor shortcut: a set `attr` of the unit points in terminal strongly connected components of their colour is
the satisfaction set of `!{x}: AG EF {x}`. -/
theorem attractor_shortcut_correct {U0 st U : CSet} {d : Nat} (hU : UnitOK E U0 st U d) (x : Name)
    (hx : varId x = d) (hdk : d < E.G.k) (K : SemCtx) (attr : CSet)
    (hattr : ∀ p ∈ E.pts, (attr p = true ↔ (U p = true ∧
      ∀ u, StarIn (E.G.stepRel p.c) (fun _ => True) p.s u → StarIn (E.G.stepRel p.c) (fun _ => True) u p.s))) :
    Sem E attr U (sat E.G K (.hyb .bind x none (.un .ag (.un .ef (.atom (.var x)))))) := by
  intro p hp
  have hlen : varId x < p.v.length := by rw [hE.len_v hp, hx]; exact hdk
  rw [hattr p hp]
  apply and_congr Iff.rfl
  simp only [sat, inDom, true_and, setV_c, setV_s, setS_c, setS_s, setS_setS, setS_getV,
    setV_getV_same p _ _ hlen]
  rw [ag_star_iff E.G p.c (fun t => ∃ π : Path (E.G.R p.c) t, ∃ i, p.s = π.π i) p.s]
  refine forall_congr' fun u => imp_congr_right fun _ => ?_
  rw [ef_star_iff E.G p.c (fun t => p.s = t)]
  exact ⟨fun h => ⟨p.s, h, rfl⟩, fun ⟨w, hw, e⟩ => e ▸ hw⟩

omit hA in
/-- … in particular the model's own attractor computation (`attrSpec`, Lemmas/Reach.lean). -/
theorem attractor_shortcut_model {U0 st U : CSet} {d : Nat} (hU : UnitOK E U0 st U d) (x : Name)
    (hx : varId x = d) (hdk : d < E.G.k) (K : SemCtx) :
    Sem E (Ops.attractorsOf E U) U (sat E.G K (.hyb .bind x none (.un .ag (.un .ef (.atom (.var x)))))) :=
  attractor_shortcut_correct hE hG hU x hx hdk K _ (attrSpec hE hG U)

omit hA in
theorem attractor_shortcut_eq_generic {U0 st U : CSet} {d : Nat} (hU : UnitOK E U0 st U d) (x : Name)
    (hx : varId x = d) (hdk : d < E.G.k) (K : SemCtx) (hK : CtxOK E K) :
    EqOn E.pts (Ops.attractorsOf E U)
      (Eval.evalPure E st K.wild K.dom (.hyb .bind x none (.un .ag (.un .ef (.atom (.var x))))) U) :=
  (attractor_shortcut_model hE hG hU x hx hdk K).eqOn
    (evalPure_correct hE hG K hK U0 st _ d U (by simp [WellNamed, hx, hdk]) (by simp [DomsIn]) hU)

end Hctl.C12
