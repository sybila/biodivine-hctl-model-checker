/-
  C11 — temporal operators obey their fixed-point laws on models of any size, for arbitrary argument sets inside an
  admissible unit.  Each is the law of the (co)inductive forms (`Lemmas/Laws.lean`) carried to sets by `sem_eu`,
  `sem_eg`, `sem_au`, `sem_ex`.
-/
import HctlProofs.Lemmas.Reach
namespace Hctl.C11

variable {E : Env} (hE : EnvOK E) (hG : GraphWF E.G)
include hE hG

/-- EF S = S ∪ EX (EF S) -/
theorem ef_unfold {U0 st U a : CSet} {d : Nat} (hU : UnitOK E U0 st U d) (ha : SubOn E.pts a U) :
    EqOn E.pts (Ops.evalEfSat E U a) (a.union (Ops.evalEx E (Ops.evalEfSat E U a) st)) :=
  have hef := sem_eu hE hG hU sem_unit (sem_self ha)
  hef.eqOn_of_iff (sem_or (sem_self ha) (sem_ex hE hG hU hef)) fun p _ _ => by
    dsimp only [setS_c, setS_s, setS_setS]
    rw [EUi_unfold]
    simp only [setS_self, true_and]

/-- EG S = S ∩ EX (EG S) -/
theorem eg_unfold {U0 st U a : CSet} {d : Nat} (hU : UnitOK E U0 st U d) (ha : SubOn E.pts a U) :
    EqOn E.pts (Ops.evalEg E a st) (a.inter (Ops.evalEx E (Ops.evalEg E a st) st)) :=
  have heg := sem_eg hE hG hU (sem_self ha)
  heg.eqOn_of_iff (sem_and (sem_self ha) (sem_ex hE hG hU heg)) fun p _ _ => by
    dsimp only [setS_c, setS_s, setS_setS]
    rw [EGc_unfold]
    simp only [setS_self]

/-- E[S U T] = T ∪ (S ∩ EX E[S U T]) -/
theorem eu_unfold {U0 st U a b : CSet} {d : Nat} (hU : UnitOK E U0 st U d)
    (ha : SubOn E.pts a U) (hb : SubOn E.pts b U) :
    EqOn E.pts (Ops.evalEuSat E a b) (b.union (a.inter (Ops.evalEx E (Ops.evalEuSat E a b) st))) :=
  have heu := sem_eu hE hG hU (sem_self ha) (sem_self hb)
  heu.eqOn_of_iff (sem_or (sem_self hb) (sem_and (sem_self ha) (sem_ex hE hG hU heu))) fun p _ _ => by
    dsimp only [setS_c, setS_s, setS_setS]
    rw [EUi_unfold]
    simp only [setS_self]

/-- A[S U T] = T ∪ (S ∩ AX A[S U T]) -/
theorem au_unfold {U0 st U a b : CSet} {d : Nat} (hU : UnitOK E U0 st U d)
    (ha : SubOn E.pts a U) (hb : SubOn E.pts b U) :
    EqOn E.pts (Ops.evalAu E U a b st) (b.union (a.inter (Ops.evalAx E U (Ops.evalAu E U a b st) st))) :=
  have hau := sem_au hE hG hU (sem_self ha) (sem_self hb)
  hau.eqOn_of_iff (sem_or (sem_self hb) (sem_and (sem_self ha) (sem_ax hE hG hU hau))) fun p _ _ => by
    dsimp only [setS_c, setS_s, setS_setS]
    rw [AUi_unfold]
    simp only [setS_self]

omit hE hG in
theorem ax_dual (U a st : CSet) : Ops.evalAx E U a st = Ops.evalNeg U (Ops.evalEx E (Ops.evalNeg U a) st) := rfl
omit hE hG in
theorem af_dual (U a st : CSet) : Ops.evalAf E U a st = Ops.evalNeg U (Ops.evalEg E (Ops.evalNeg U a) st) := rfl
omit hE hG in
theorem ag_dual (U a : CSet) : Ops.evalAg E U a = Ops.evalNeg U (Ops.evalEfSat E U (Ops.evalNeg U a)) := rfl

/-- A[S U T] = ¬(E[¬T U (¬S ∧ ¬T)] ∨ EG ¬T) -/
theorem au_dual {U0 st U a b : CSet} {d : Nat} (hU : UnitOK E U0 st U d)
    (ha : SubOn E.pts a U) (hb : SubOn E.pts b U) :
    EqOn E.pts (Ops.evalAu E U a b st)
      (Ops.evalNeg U ((Ops.evalEuSat E (Ops.evalNeg U b) ((Ops.evalNeg U a).inter (Ops.evalNeg U b))).union
        (Ops.evalEg E (Ops.evalNeg U b) st))) :=
  have sa := sem_self (E := E) ha
  have sb := sem_self (E := E) hb
  (sem_au_path hE hG hU sa sb).eqOn_of_iff
    (sem_neg (sem_or (sem_eu_path hE hG hU (sem_neg sb) (sem_and (sem_neg sa) (sem_neg sb)))
      (sem_eg_path hE hG hU (sem_neg sb)))) fun p _ _ => by
    constructor
    · rintro hall (⟨π, hu⟩ | ⟨π, hg⟩)
      · exact ((until_dual _ _ π.π).mp (hall π)).1 hu
      · exact ((until_dual _ _ π.π).mp (hall π)).2 hg
    · intro hn π
      apply (until_dual _ _ π.π).mpr
      exact ⟨fun hu => hn (Or.inl ⟨π, hu⟩), fun hg => hn (Or.inr ⟨π, hg⟩)⟩

/-! Monotonicity: sets are compared on the state space, which transitions do not leave. -/

theorem ex_mono {U0 st U a a' : CSet} {d : Nat} (hU : UnitOK E U0 st U d)
    (ha : SubOn E.pts a U) (ha' : SubOn E.pts a' U) (h : SubOn E.pts a a') :
    SubOn E.pts (Ops.evalEx E a st) (Ops.evalEx E a' st) :=
  (sem_ex hE hG hU (sem_self ha)).subOn (sem_ex hE hG hU (sem_self ha')) fun _ hp _ ⟨t, hR, hat⟩ =>
    ⟨t, hR, h _ (hE.setS_mem hp (R_lt hE hG hp hR)) hat⟩

theorem eu_mono {U0 st U a a' b b' : CSet} {d : Nat} (hU : UnitOK E U0 st U d)
    (ha : SubOn E.pts a U) (ha' : SubOn E.pts a' U) (hb : SubOn E.pts b U) (hb' : SubOn E.pts b' U)
    (h1 : SubOn E.pts a a') (h2 : SubOn E.pts b b') :
    SubOn E.pts (Ops.evalEuSat E a b) (Ops.evalEuSat E a' b') :=
  (sem_eu hE hG hU (sem_self ha) (sem_self hb)).subOn (sem_eu hE hG hU (sem_self ha') (sem_self hb'))
    fun _ hp _ heu => EUi.mono_on (I := (· < E.G.nS)) (fun _ _ => R_lt_nS hG)
      (fun _ ht => h1 _ (hE.setS_mem hp ht)) (fun _ ht => h2 _ (hE.setS_mem hp ht)) heu (hE.s_lt hp)

theorem ef_mono {U0 st U a a' : CSet} {d : Nat} (hU : UnitOK E U0 st U d)
    (ha : SubOn E.pts a U) (ha' : SubOn E.pts a' U) (h : SubOn E.pts a a') :
    SubOn E.pts (Ops.evalEfSat E U a) (Ops.evalEfSat E U a') :=
  eu_mono hE hG hU (SubOn.refl U) (SubOn.refl U) ha ha' (SubOn.refl U) h

theorem eg_mono {U0 st U a a' : CSet} {d : Nat} (hU : UnitOK E U0 st U d)
    (ha : SubOn E.pts a U) (ha' : SubOn E.pts a' U) (h : SubOn E.pts a a') :
    SubOn E.pts (Ops.evalEg E a st) (Ops.evalEg E a' st) :=
  (sem_eg hE hG hU (sem_self ha)).subOn (sem_eg hE hG hU (sem_self ha'))
    fun _ hp _ heg => EGc.mono_on (I := (· < E.G.nS)) (fun _ _ => R_lt_nS hG)
      (fun _ ht => h _ (hE.setS_mem hp ht)) heg (hE.s_lt hp)

theorem au_mono {U0 st U a a' b b' : CSet} {d : Nat} (hU : UnitOK E U0 st U d)
    (ha : SubOn E.pts a U) (ha' : SubOn E.pts a' U) (hb : SubOn E.pts b U) (hb' : SubOn E.pts b' U)
    (h1 : SubOn E.pts a a') (h2 : SubOn E.pts b b') :
    SubOn E.pts (Ops.evalAu E U a b st) (Ops.evalAu E U a' b' st) :=
  (sem_au hE hG hU (sem_self ha) (sem_self hb)).subOn (sem_au hE hG hU (sem_self ha') (sem_self hb'))
    fun _ hp _ hau => AUi.mono_on (I := (· < E.G.nS)) (fun _ _ => R_lt_nS hG)
      (fun _ ht => h1 _ (hE.setS_mem hp ht)) (fun _ ht => h2 _ (hE.setS_mem hp ht)) hau (hE.s_lt hp)

/-- EF S = the points from which S is reachable -/
theorem ef_eq_reach_bwd {U0 st U a : CSet} {d : Nat} (hU : UnitOK E U0 st U d) (ha : SubOn E.pts a U) :
    ∀ p ∈ E.pts, (Ops.evalEfSat E U a p = true ↔
      (U p = true ∧ ∃ u, StarIn (E.G.stepRel p.c) (fun _ => True) p.s u ∧ a (p.setS u) = true)) :=
  fun p hp => (sem_ef hE hG hU (sem_self ha) p hp).trans (and_congr_right fun _ =>
    ef_star_iff E.G p.c (fun t => a (p.setS t) = true) p.s)

/-- E[S U T] = the points from which T is reachable through S -/
theorem eu_eq_reach_bwd_within {U0 st U a b : CSet} {d : Nat} (hU : UnitOK E U0 st U d)
    (ha : SubOn E.pts a U) (hb : SubOn E.pts b U) :
    ∀ p ∈ E.pts, (Ops.evalEuSat E a b p = true ↔
      (U p = true ∧ ∃ u, StarIn (E.G.stepRel p.c) (fun t => a (p.setS t) = true) p.s u ∧ b (p.setS u) = true)) :=
  fun p hp => (sem_eu hE hG hU (sem_self ha) (sem_self hb) p hp).trans
    (and_congr_right fun _ => (EUi_R_iff_step E.G p.c _ _ p.s).trans (EUi_iff_starIn _ _ _))

/-- AG S = the points from which every reachable point is in S -/
theorem ag_eq_trap_fwd {U0 st U a : CSet} {d : Nat} (hU : UnitOK E U0 st U d) (ha : SubOn E.pts a U) :
    ∀ p ∈ E.pts, (Ops.evalAg E U a p = true ↔
      (U p = true ∧ ∀ u, StarIn (E.G.stepRel p.c) (fun _ => True) p.s u → u < E.G.nS → a (p.setS u) = true)) :=
  fun p hp => (sem_ag hE hG hU (sem_self ha) p hp).trans (and_congr_right fun _ =>
    (ag_star_iff E.G p.c (fun t => a (p.setS t) = true) p.s).trans
      ⟨fun h u hs _ => h u hs, fun h u hs => h u hs (StarIn.lt_nS hG hs (hE.s_lt hp))⟩)

/-- EX treats steady states as self-loops … -/
theorem ex_steady_selfloop {U0 st U a : CSet} {d : Nat} (hU : UnitOK E U0 st U d) (ha : SubOn E.pts a U) :
    ∀ p ∈ E.pts, E.G.isSteady p.c p.s → a p = true → Ops.evalEx E a st p = true := by
  intro p hp hs hap
  exact (sem_ex hE hG hU (sem_self ha) p hp).mpr ⟨ha p hp hap, p.s, Or.inr ⟨hs, rfl⟩, hap⟩

/-- … and so does AX -/
theorem ax_steady_selfloop {U0 st U a : CSet} {d : Nat} (hU : UnitOK E U0 st U d) (ha : SubOn E.pts a U) :
    ∀ p ∈ E.pts, E.G.isSteady p.c p.s → a p = true → Ops.evalAx E U a st p = true := by
  intro p hp hs hap
  refine (sem_ax hE hG hU (sem_self ha) p hp).mpr ⟨ha p hp hap, ?_⟩
  rintro t (⟨j, hj, hst⟩ | ⟨_, rfl⟩)
  · rw [hs j hj] at hst; cases hst
  · exact hap

end Hctl.C11
