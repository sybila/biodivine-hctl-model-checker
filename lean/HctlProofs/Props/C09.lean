/-
  C09 — canonical forms identify exactly the sub-formulae equal up to renaming. Here: the renaming that accompanies
  the tree-level pass `canonTree` is an injective function onto `var0, var1, …`.  The rest of the property is in the lemma
  files `CanonTree`, `CanonRender`, `VarRename`, `CanonRenaming`, `CanonConverse`, `KeyProof` and `MarkDups`.
-/
import HctlProofs.Lemmas.CanonTree
namespace Hctl.C09

/-- the `VarRenameMap` that `get_canonical_and_renaming` returns can be read backwards on a cache hit: no two
variables share a canonical name, and no variable has two -/
theorem renaming_injective (t : Tree) :
    (∀ x y c, (x, c) ∈ (canonTree t).2 → (y, c) ∈ (canonTree t).2 → x = y) ∧
    (∀ x c c', (x, c) ∈ (canonTree t).2 → (x, c') ∈ (canonTree t).2 → c = c') :=
  -- `(canonTree t).2` unfolds to the map of the final state
  have h := canonTreeAux_inv t {} CanonInv.init
  ⟨h.inj, h.keys⟩

/-- canonical names are `var0, var1, …`, below the number of names handed out -/
theorem renaming_names (t : Tree) :
    ∀ x c, (x, c) ∈ (canonTree t).2 → ∃ j, j < (canonTreeAux t {}).2.stack ∧ c = canonName j :=
  (canonTreeAux_inv t {} CanonInv.init).bound

theorem canonName_injective {a b : Nat} (h : canonName a = canonName b) : a = b := canonName_inj h

/-- counting a key adds at most that key to the duplicate map -/
theorem dupIncr_keys (k : Key) (d : DupMap) (k' : Key) :
    k' ∈ (dupIncr k d).map Prod.fst → k' = k ∨ k' ∈ d.map Prod.fst := by
  induction d with
  | nil => intro h; exact Or.inl (List.mem_singleton.mp h)
  | cons e d ih =>
    intro h
    simp only [dupIncr] at h
    split at h
    · exact Or.inr h
    · rcases List.mem_cons.mp h with h | h
      · exact Or.inr (List.mem_cons.mpr (Or.inl h))
      · exact (ih h).imp_right (List.mem_cons_of_mem _)

/-! The two passes on a formula that binds `xx` and uses `x` free. -/
example : (canonTree (.bin .and (.hyb .bind ['x','x'] none (.atom (.var ['x','x']))) (.atom (.var ['x'])))).1 =
    .bin .and (.hyb .bind "var0".toList none (.atom (.var "var0".toList))) (.atom (.var "var1".toList)) := by decide
example : canonChars "(AX {xx})".toList = ("(AX {var0})".toList, [(['x','x'], "var0".toList)]) := by decide

end Hctl.C09
