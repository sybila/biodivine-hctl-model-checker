/-
  C01 — model checking returns exactly the (state, colour) pairs satisfying the formula.  Here for the cache-free
  evaluator; for the string entry point see `formulaeDirty_correct` (Lemmas/EntryPoints.lean).
-/
import HctlProofs.Lemmas.EvalCorrect
namespace Hctl.C01
open Kripke

/-- For every well-formed graph, every plain formula named by nesting depth and every
point with a valid colour: the point is in the result exactly when its state satisfies the formula in that colour's
asynchronous transition system with self-loops on steady states. -/
theorem model_check_correct {E : Env} (hE : EnvOK E) (hG : GraphWF E.G) (t : Tree)
    (hw : WellNamed E.G.k 0 t) (hp : Plain t) :
    ∀ p ∈ E.pts, E.G.valid p.c = true → (evalTop E noCtx t p = true ↔ sat E.G noCtx t p) :=
  fun p hpp hv => (evalTop_correct hE hG noCtx (ctxOK_noCtx E) t hw (hp.domsIn noCtx) p hpp).trans (and_iff_right hv)

theorem invalid_colour_excluded {E : Env} (hE : EnvOK E) (hG : GraphWF E.G) (t : Tree)
    (hw : WellNamed E.G.k 0 t) (hp : Plain t) :
    ∀ p ∈ E.pts, E.G.valid p.c = false → evalTop E noCtx t p = false :=
  fun p hpp hv => Bool.eq_false_iff.mpr fun h =>
    Bool.false_ne_true (hv.symm.trans ((evalTop_correct hE hG noCtx (ctxOK_noCtx E) t hw (hp.domsIn noCtx) p hpp).mp h).1)

/-- `sat` unfolded: the operators have their standard meaning -/
theorem sat_EX (G : Graph) (K : SemCtx) (φ : Tree) (p : Point) :
    sat G K (.un .ex φ) p ↔ ∃ t, G.R p.c p.s t ∧ sat G K φ (p.setS t) := Iff.rfl
theorem sat_EG (G : Graph) (K : SemCtx) (φ : Tree) (p : Point) :
    sat G K (.un .eg φ) p ↔ ∃ π : Path (G.R p.c) p.s, ∀ i, sat G K φ (p.setS (π.π i)) := Iff.rfl
theorem sat_AU (G : Graph) (K : SemCtx) (φ ψ : Tree) (p : Point) :
    sat G K (.bin .au φ ψ) p ↔ ∀ π : Path (G.R p.c) p.s,
      ∃ i, sat G K ψ (p.setS (π.π i)) ∧ ∀ j, j < i → sat G K φ (p.setS (π.π j)) := Iff.rfl
theorem sat_bind (G : Graph) (K : SemCtx) (x : Name) (φ : Tree) (p : Point) :
    sat G K (.hyb .bind x none φ) p ↔ sat G K φ (p.setV (varId x) p.s) := by simp [sat, inDom]
theorem sat_jump (G : Graph) (K : SemCtx) (x : Name) (φ : Tree) (p : Point) :
    sat G K (.hyb .jump x none φ) p ↔ sat G K φ (p.setS (p.getV (varId x))) := Iff.rfl
theorem steady_selfloop (G : Graph) (c s : Nat) (h : G.isSteady c s) : G.R c s s := Or.inr ⟨h, rfl⟩

/-! The hypotheses can be met: a two-state oscillator with one valid and one invalid colour. -/

private def G1 : Graph :=
  { nS := 2, nC := 2, nV := 1, k := 1
    valid := fun c => c == 0
    step := fun _ _ s => some (1 - s)
    label := fun n => if n = ['a'] then some (fun s => s == 1) else none }

private theorem G1_wf : GraphWF G1 := ⟨by
  intro c j s t h _
  simp [G1] at h
  subst h
  show 1 - s < 2
  omega⟩

private def x : Name := ['x']
private def fEFa : Tree := .un .ef (.atom (.prop ['a']))
private def fBind : Tree := .hyb .bind x none (.un .ef (.atom (.var x)))

example : EnvOK (Env.pure G1) ∧ GraphWF G1 ∧ WellNamed G1.k 0 fBind ∧ Plain fBind :=
  ⟨envOK_pure G1, G1_wf, by simp [WellNamed, fBind, varId, x, G1], by simp [Plain, fBind]⟩
example : (⟨0, 0, [0]⟩ : Point) ∈ (Env.pure G1).pts := by decide +kernel
example : sat G1 noCtx fEFa ⟨0, 0, [0]⟩ :=
  (model_check_correct (envOK_pure G1) G1_wf fEFa (by simp [WellNamed, fEFa]) (by simp [Plain, fEFa])
    ⟨0, 0, [0]⟩ (by decide +kernel) (by decide +kernel)).mp (by decide +kernel)

end Hctl.C01
