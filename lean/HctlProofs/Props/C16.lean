/-
  C16 — result archives reload to the sets that were written.
  The zip container, the file system and the BDD (de)serialisation are outside the model: `ser`/`deser`
  are parameters with the round-trip hypothesis `deser (ser s) = s` (exercised by K8 on every run).
-/
import HctlModel.Cli
namespace Hctl.C16
open Hctl.Archive

/-- `<label>.bdd` strips back to the label, whatever the label (empty, ending in '/', containing dots) -/
theorem bdd_entry_reloads (l : List Char) : stripBdd (l ++ ['.', 'b', 'd', 'd']) = some l := by
  unfold stripBdd
  simp

theorem nonbdd_ignored :
    stripBdd ['m', 'o', 'd', 'e', 'l', '.', 'a', 'e', 'o', 'n'] = none ∧
    stripBdd ['f', 'o', 'r', 'm', 'u', 'l', 'a', 'e', '.', 't', 'x', 't'] = none := by
  decide

theorem load_append {α : Type} (deser : List Char → α) (a b : List (List Char × List Char)) :
    load deser (a ++ b) = load deser a ++ load deser b := by
  unfold load; exact List.filterMap_append

theorem load_cons_nonbdd {α : Type} (deser : List Char → α) {n : List Char} (c : List Char)
    (es : List (List Char × List Char)) (h : stripBdd n = none) : load deser ((n, c) :: es) = load deser es := by
  simp [load, h]

theorem load_cons_bdd {α : Type} (deser : List Char → α) (l c : List Char) (es : List (List Char × List Char)) :
    load deser ((l ++ ['.', 'b', 'd', 'd'], c) :: es) = (l, deser c) :: load deser es := by
  simp [load, bdd_entry_reloads l]

/-- reading back what `build_result_archive` wrote yields, under the same labels, the sets written, whatever the labels -/
theorem bundle_roundtrip {α : Type} (ser : α → List Char) (deser : List Char → α)
    (hrt : ∀ s, deser (ser s) = s) (results : List (List Char × α)) (model : List Char) (formulae : List (List Char)) :
    load deser (entries ser results model formulae) = results := by
  unfold entries
  rw [load_append, load_cons_nonbdd deser _ _ nonbdd_ignored.1, load_cons_nonbdd deser _ _ nonbdd_ignored.2]
  show load deser _ ++ [] = results
  rw [List.append_nil]
  induction results with
  | nil => rfl
  | cons e rs ih => rw [List.map_cons, load_cons_bdd, hrt, ih]

/-- the empty label and a label ending in '/' come back -/
example : load (fun c => c) (entries (fun c => c) [([], ['x']), (['a', '/'], ['y'])] [] []) = [([], ['x']), (['a', '/'], ['y'])] := by
  decide +kernel

example : load (α := List Char) id (entries id [(['s', '1'], ['X'])] ['m'] [['f']])
    = [(['s', '1'], ['X'])] := by decide +kernel

theorem linesAux_app (f : List Char) (rest cur : List Char) (h : '\n' ∉ f) :
    Loader.linesAux (f ++ '\n' :: rest) cur = (cur.reverse ++ f) :: Loader.linesAux rest [] := by
  induction f generalizing cur with
  | nil => simp [Loader.linesAux]
  | cons c f ih =>
    simp only [List.mem_cons, not_or] at h
    have hc : c ≠ '\n' := fun e => h.1 e.symm
    simp [Loader.linesAux, hc, ih (c :: cur) h.2]

theorem stripCr_eq_self {f : List Char} (hf : f.getLast? ≠ some '\r') : Loader.stripCr f = f := by
  unfold Loader.stripCr
  split
  · next r heq => exact absurd (by rw [List.getLast?_eq_head?_reverse, heq]; rfl) hf
  · rfl

theorem stripCr_subset (l : List Char) (c : Char) (h : c ∈ Loader.stripCr l) : c ∈ l := by
  unfold Loader.stripCr at h
  split at h
  · next r heq => exact List.mem_reverse.mp (heq ▸ List.mem_cons_of_mem _ (List.mem_reverse.mp h))
  · exact h

theorem linesAux_unlines (fs : List (List Char)) (h : ∀ f ∈ fs, '\n' ∉ f) :
    Loader.linesAux ((fs.map (· ++ ['\n'])).flatten) [] = fs := by
  induction fs with
  | nil => rfl
  | cons f fs ih =>
    rw [List.map_cons, List.flatten_cons, List.append_assoc, List.singleton_append,
      linesAux_app f _ [] (h f List.mem_cons_self), ih (fun g hg => h g (List.mem_cons_of_mem _ hg))]
    rfl

theorem lines_unlines (fs : List (List Char)) (h : ∀ f ∈ fs, '\n' ∉ f ∧ f.getLast? ≠ some '\r') :
    Loader.lines ((fs.map (· ++ ['\n'])).flatten) = fs := by
  rw [Loader.lines, linesAux_unlines fs (fun f hf => (h f hf).1)]
  exact (List.map_congr_left fun f hf => stripCr_eq_self (h f hf).2).trans (List.map_id fs)

theorem oneLine_ok (f : List Char) : '\n' ∉ oneLine f ∧ (oneLine f).getLast? ≠ some '\r' := by
  have hno : ∀ c ∈ oneLine f, c ≠ '\n' ∧ c ≠ '\r' := by
    intro c hc
    simp only [oneLine, List.mem_map] at hc
    obtain ⟨d, _, rfl⟩ := hc
    by_cases h : d = '\n' ∨ d = '\r'
    · rw [if_pos h]; decide
    · rw [if_neg h]; exact ⟨fun e => h (Or.inl e), fun e => h (Or.inr e)⟩
  refine ⟨fun hm => (hno _ hm).1 rfl, fun hl => ?_⟩
  exact (hno _ (List.mem_of_getLast? hl)).2 rfl

theorem oneLine_id (f : List Char) (h : '\n' ∉ f ∧ '\r' ∉ f) : oneLine f = f :=
  (List.map_congr_left fun _ hc => if_neg fun e => e.elim (fun e => h.1 (e ▸ hc)) (fun e => h.2 (e ▸ hc))).trans
    (List.map_id f)

theorem formulae_lines_eq (fs : List (List Char)) :
    Loader.lines ((fs.map (fun f => oneLine f ++ ['\n'])).flatten) = fs.map oneLine := by
  have := lines_unlines (fs.map oneLine) (fun f hf => by
    obtain ⟨g, _, rfl⟩ := List.mem_map.mp hf
    exact oneLine_ok g)
  rwa [List.map_map] at this

/-- line i of the archived `formulae.txt` is formula i written on one line, so entry `formula-i` corresponds to line i
also when a formula contains a line break -/
theorem formulae_lines (fs : List (List Char)) (i : Nat) :
    (Loader.lines ((fs.map (fun f => oneLine f ++ ['\n'])).flatten))[i]? = (fs.map oneLine)[i]? := by
  rw [formulae_lines_eq]

section reload
theorem entries_length {α : Type} (ser : α → List Char) (results : List (List Char × α)) (model : List Char)
    (formulae : List (List Char)) : (entries ser results model formulae).length = results.length + 2 := by
  simp [entries]

variable (ser : CSet → List Char) (deser : List Char → CSet) (hrt : ∀ s, deser (ser s) = s)
include hrt

/-- the context read back from an archive has the effect of the context that was written -/
theorem reloaded_context_same_effect (E : Env) (K : CharClass) (ctx : List (Name × CSet)) (model : List Char)
    (archived : List (List Char)) (formulas : List (List Char)) :
    Api.extendedDirty E K E.G.unit0 (load deser (entries ser ctx model archived)) formulas
      = Api.extendedDirty E K E.G.unit0 ctx formulas := by
  rw [bundle_roundtrip ser deser hrt ctx model archived]

/-- the same for the tool run with `-e <archive>` -/
theorem reloaded_context_same_effect_tool (net : Nat → Env) (K : CharClass) (ctx : List (Name × CSet)) (model : List Char)
    (archived : List (List Char)) (text : List Char) :
    Cli.analyse net K true (load deser (entries ser ctx model archived)) text = Cli.analyse net K true ctx text := by
  rw [bundle_roundtrip ser deser hrt ctx model archived]

end reload

end Hctl.C16
