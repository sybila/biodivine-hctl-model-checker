/-
  C17 — the command-line tool computes the same sets as the library.  Here: the formula-file loader; the tool's
  pipeline, the printed counts and the listed states are in Lemmas/CliModel, CliCounts, DriverCli.  Argument parsing
  (clap), the layout of the output and process behaviour are observed by the correspondence K9, not modelled.
-/
import HctlProofs.Props.C16
namespace Hctl.C17
open Hctl.Loader

/-- `load_formulae` returns the trimmed lines that are neither blank nor comments -/
theorem mem_loadFormulae (isWs : Char → Bool) (text l : List Char) :
    l ∈ loadFormulae isWs text ↔
      ∃ ln ∈ lines text, l = trim isWs ln ∧ l ≠ [] ∧ l.head? ≠ some '#' := by
  simp only [loadFormulae, List.mem_filter, List.mem_map, Bool.and_eq_true, Bool.not_eq_true',
    List.isEmpty_eq_false_iff, bne_iff_ne, ne_eq]
  constructor
  · rintro ⟨⟨ln, hln, rfl⟩, h1, h2⟩; exact ⟨ln, hln, rfl, h1, h2⟩
  · rintro ⟨ln, hln, rfl, h1, h2⟩; exact ⟨⟨ln, hln, rfl⟩, h1, h2⟩

/-- … in file order -/
theorem loadFormulae_order (isWs : Char → Bool) (text : List Char) :
    (loadFormulae isWs text).Sublist ((lines text).map (trim isWs)) :=
  List.filter_sublist

theorem head_dropWhile {α : Type} {p : α → Bool} (l : List α) (c : α) (h : (l.dropWhile p).head? = some c) : p c = false := by
  have := List.head?_dropWhile_not p l
  rwa [h] at this

theorem dropWhile_id {α : Type} {p : α → Bool} {l : List α} (h : ∀ c, l.head? = some c → p c = false) :
    l.dropWhile p = l := by
  cases l with
  | nil => rfl
  | cons x xs => simp [h x rfl]

theorem trim_trim (isWs : Char → Bool) (l : List Char) : trim isWs (trim isWs l) = trim isWs l := by
  unfold trim
  generalize ha : l.dropWhile isWs = a
  have hah : ∀ c, a.head? = some c → isWs c = false := by rw [← ha]; exact head_dropWhile l
  generalize hb : a.reverse.dropWhile isWs = b
  have hbh : ∀ c, b.head? = some c → isWs c = false := by rw [← hb]; exact head_dropWhile a.reverse
  -- `b.reverse` is a prefix of `a`, so it begins like `a`: with no blank
  obtain ⟨t, ht⟩ : b.reverse <+: a := by
    rw [← List.reverse_reverse a]; exact List.reverse_prefix.mpr (hb ▸ List.dropWhile_suffix _)
  have hrh : ∀ c, b.reverse.head? = some c → isWs c = false := by
    intro c hc
    apply hah c
    rw [← ht, List.head?_append, hc]; rfl
  rw [dropWhile_id hrh, List.reverse_reverse, dropWhile_id hbh]

theorem trim_getLast (isWs : Char → Bool) (l : List Char) (c : Char) (h : (trim isWs l).getLast? = some c) :
    isWs c = false := by
  unfold trim at h
  rw [List.getLast?_reverse] at h
  exact head_dropWhile _ c h

theorem linesAux_no_newline : ∀ (s cur : List Char), '\n' ∉ cur → ∀ ln ∈ linesAux s cur, '\n' ∉ ln := by
  intro s
  induction s with
  | nil =>
    intro cur hc ln hln
    simp only [linesAux] at hln
    split at hln
    · cases hln
    · rw [List.mem_singleton.mp hln]; simpa using hc
  | cons c cs ih =>
    intro cur hc ln hln
    simp only [linesAux] at hln
    split at hln
    · rcases List.mem_cons.mp hln with rfl | h
      · simpa using hc
      · exact ih [] List.not_mem_nil ln h
    · next hne => exact ih (c :: cur) (by simp [hc]; exact fun e => hne e.symm) ln hln

theorem trim_subset (isWs : Char → Bool) (l : List Char) (c : Char) (h : c ∈ trim isWs l) : c ∈ l :=
  (List.dropWhile_sublist _).subset
    (List.mem_reverse.mp ((List.dropWhile_sublist _).subset (List.mem_reverse.mp h)))

theorem lines_no_newline (text : List Char) : ∀ ln ∈ lines text, '\n' ∉ ln := by
  intro ln hln hmem
  obtain ⟨raw, hraw, rfl⟩ := List.mem_map.mp hln
  exact linesAux_no_newline text [] List.not_mem_nil raw hraw (C16.stripCr_subset _ _ hmem)

/-- clean lines written one per line load back as they are -/
theorem loadFormulae_unlines (isWs : Char → Bool) (hcr : isWs '\r' = true) (fs : List (List Char))
    (h : ∀ f ∈ fs, '\n' ∉ f ∧ trim isWs f = f ∧ f ≠ [] ∧ f.head? ≠ some '#') :
    loadFormulae isWs ((fs.map (· ++ ['\n'])).flatten) = fs := by
  -- a trimmed line does not end in '\r', which is a blank
  have hl := C16.lines_unlines fs fun f hf => ⟨(h f hf).1, fun hl => by
    have := trim_getLast isWs f '\r' (by rw [(h f hf).2.1]; exact hl)
    rw [hcr] at this; cases this⟩
  rw [loadFormulae, hl, (List.map_congr_left fun f hf => (h f hf).2.1).trans (List.map_id fs)]
  exact List.filter_eq_self.mpr fun f hf => by simp [(h f hf).2.2.1, (h f hf).2.2.2]

/-- formulae written one per line reload to the same list, in the same order (the archive writes `oneLine f`, which
is `f` for a loaded formula unless it has an interior carriage return: `C16.oneLine_id`) -/
theorem loadFormulae_idem (isWs : Char → Bool) (hcr : isWs '\r' = true) (text : List Char) :
    loadFormulae isWs (((loadFormulae isWs text).map (· ++ ['\n'])).flatten) = loadFormulae isWs text := by
  refine loadFormulae_unlines isWs hcr _ fun f hf => ?_
  obtain ⟨ln, hln, rfl, h1, h2⟩ := (mem_loadFormulae isWs text _).mp hf
  exact ⟨fun hmem => lines_no_newline text ln hln (trim_subset isWs _ _ hmem), trim_trim isWs _, h1, h2⟩

/-! comment lines, blank lines, surrounding blanks and CRLF are dropped -/
private def ws (c : Char) : Bool := c = ' ' || c = '\t' || c = '\r' || c = '\n'
example : loadFormulae ws ['#',' ','c','\n',' ','a',' ','\r','\n','\n',' ','#','x','\n','b'] = [['a'], ['b']] := by decide +kernel

end Hctl.C17
