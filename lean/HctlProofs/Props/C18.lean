/-
  C18 — the self-loop-free variant agrees with standard evaluation where loops cannot matter.
-/
import HctlProofs.Lemmas.EvalCorrect
import HctlProofs.Lemmas.EvalNodeEq
import HctlModel.Api
namespace Hctl.C18

/-- none of EX, AX, AF, EG, AU, EW occurs -/
def NoLoopOps : Tree → Prop
  | .atom _ => True
  | .un o c => (o = .not ∨ o = .ef ∨ o = .ag) ∧ NoLoopOps c
  | .bin o l r => (o ≠ .au ∧ o ≠ .ew) ∧ NoLoopOps l ∧ NoLoopOps r
  | .hyb _ _ _ c => NoLoopOps c

theorem evalUn_steady_irrel (E : Env) (U s1 s2 : CSet) {o : UnOp} (ho : o = .not ∨ o = .ef ∨ o = .ag) (c : CSet) :
    Eval.evalUn E U s1 o c = Eval.evalUn E U s2 o c := by
  rcases ho with rfl | rfl | rfl <;> rfl

theorem evalBin_steady_irrel (E : Env) (U s1 s2 : CSet) {o : BinOp} (h1 : o ≠ .au) (h2 : o ≠ .ew) (l r : CSet) :
    Eval.evalBin E U s1 o l r = Eval.evalBin E U s2 o l r := by
  -- `au` and `ew` by name: a failing `rfl` on them unfolds both evaluations before it gives up
  cases o with
  | au => exact absurd rfl h1
  | ew => exact absurd rfl h2
  | _ => rfl

/-- On the fragment the cache-free evaluator returns the same set whatever steady set it is given (∅ = `unsafe_ex`). -/
theorem unsafe_ex_eq_pure (E : Env) (s1 s2 : CSet) (W D : Name → Option CSet) :
    ∀ t U, NoLoopOps t → Eval.evalPure E s1 W D t U = Eval.evalPure E s2 W D t U := by
  intro t
  induction t with
  | atom a => intro U _; cases a <;> simp [Eval.evalPure]
  | un o c ih =>
    intro U h
    simp only [Eval.evalPure, ih U h.2, evalUn_steady_irrel E U s1 s2 h.1]
  | bin o l r ihl ihr =>
    intro U h
    simp only [Eval.evalPure, ihl U h.2.1, ihr U h.2.2, evalBin_steady_irrel E U s1 s2 h.1.1 h.1.2]
  | hyb o x d c ih =>
    intro U h
    simp only [NoLoopOps] at h
    simp only [Eval.evalPure]
    by_cases hj : o = .jump
    · simp [hj, ih U h]
    · simp only [hj, if_false]
      cases d with
      | none => simp [ih U h]
      | some l =>
        simp only
        cases D l with
        | none => rfl
        | some ds => simp [ih _ h]

/-- the steady-state shortcut `!{x}: AX {x}` reads the steady set directly; it is outside the fragment -/
theorem fixedPoint_pattern_excluded : ∀ t, NoLoopOps t → isFixedPointPattern t = false := by
  intro t h
  unfold isFixedPointPattern
  split
  · rename_i v1 v2
    simp [NoLoopOps] at h
  · rfl

/-- The same for `eval_node` with its cache and shortcuts: steady set ∅ (`model_check_formula_unsafe_ex`) gives the same
set and context as the real one, from every context. -/
theorem unsafe_ex_eq (E : Env) (s1 s2 : CSet) :
    ∀ t U ctx, NoLoopOps t → Eval.evalNode E s1 t U ctx = Eval.evalNode E s2 t U ctx := by
  intro t
  induction t with
  | atom a =>
    intro U ctx h
    rw [Eval.evalNode_eq, Eval.evalNode_eq]
    cases a <;> rfl
  | un o c ih =>
    intro U ctx h
    rw [Eval.evalNode_eq, Eval.evalNode_eq]
    simp only [Eval.nodeBody, ih U ctx h.2, evalUn_steady_irrel E U s1 s2 h.1]
  | bin o l r ihl ihr =>
    intro U ctx h
    rw [Eval.evalNode_eq, Eval.evalNode_eq]
    simp only [Eval.nodeBody, ihl U ctx h.2.1, fun ctx1 => ihr U ctx1 h.2.2, evalBin_steady_irrel E U s1 s2 h.1.1 h.1.2]
  | hyb o x d c ih =>
    intro U ctx h
    rw [Eval.evalNode_eq, Eval.evalNode_eq]
    simp only [Eval.nodeBody, fixedPoint_pattern_excluded _ h, Bool.false_eq_true, if_false,
      fun U' ctx' => ih U' ctx' h]

/-- If no colour has a steady state, ∅ is the steady set and the two variants agree on every formula. -/
theorem no_steady_eq {E : Env} (hE : EnvOK E) (hG : GraphWF E.G) (K : SemCtx) (hK : CtxOK E K)
    (hns : ∀ p ∈ E.pts, ¬ E.G.isSteady p.c p.s)
    (t : Tree) (hw : WellNamed E.G.k 0 t) (hd : DomsIn K t) :
    EqOn E.pts (Eval.evalPure E CSet.empty K.wild K.dom t E.G.unit0) (evalTop E K t) := by
  have hst : SteadyOK E E.G.unit0 CSet.empty := by
    intro p hp
    constructor
    · intro h; cases h
    · rintro ⟨_, h⟩; exact absurd h (hns p hp)
  have hU : UnitOK E E.G.unit0 CSet.empty E.G.unit0 0 :=
    ⟨hst, (unitOK_unit0 E).stateIndep, (unitOK_unit0 E).indepFrom, (unitOK_unit0 E).sub0⟩
  intro p hp
  have h1 := evalPure_correct hE hG K hK E.G.unit0 CSet.empty t 0 E.G.unit0 hw hd hU p hp
  have h2 := evalTop_correct hE hG K hK t hw hd p hp
  exact Bool.eq_iff_iff.mpr (h1.trans h2.symm)

section strings
variable (E : Env) (K : CharClass)

/-- `model_check_formula_unsafe_ex(f)` returns what `model_check_multiple_formulae_dirty([f])` returns if the preprocessed
tree is in the fragment. -/
theorem unsafeEx_eq_standard (U : CSet) (f : List Char) (t : Tree)
    (hp : Api.parseOne E K false f = .ok t) (hn : NoLoopOps t) :
    Api.unsafeEx E K U f =
      match Api.formulaeDirty E K U [f] with
      | .ok [r] => .ok r
      | .ok _ => .panic "index"
      | .userError e => .userError e
      | .panic s => .panic s := by
  unfold Api.unsafeEx Api.formulaeDirty Api.treesDirty
  simp only [Api.parseAll, hp, Bool.false_eq_true, if_false]
  simp only [Api.evalAll]
  rw [unsafe_ex_eq E CSet.empty (Ops.steadyOf E U) t U _ hn]
  cases Eval.evalNode E (Ops.steadyOf E U) t U { dups := markDups [t] } with
  | error e => cases e; rfl
  | ok r => obtain ⟨r, c⟩ := r; rfl

end strings

example : NoLoopOps (.hyb .bind ['x'] none (.un .ag (.un .ef (.atom (.var ['x']))))) := by
  simp [NoLoopOps]
example : ¬ NoLoopOps (.hyb .bind ['x'] none (.un .ax (.atom (.var ['x'])))) := by
  simp [NoLoopOps]

end Hctl.C18
