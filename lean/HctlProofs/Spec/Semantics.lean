/-
  REFERENCE SEMANTICS of (extended) HCTL over the asynchronous transition system of one colour,
  where a state without outgoing transition carries a self-loop.  Prop-valued, never executed.

  A point `p = (s, c, v)` bundles the current state `s`, the colour `c` and the valuation `v` of the
  state variables (variable `x…x` of length n+1 is stored at index n — preprocessing names variables so).
-/
import HctlModel.EvalPure
import HctlProofs.Spec.Kripke
namespace Hctl
open Kripke

/-- a state without successors in colour `c` -/
def Graph.isSteady (G : Graph) (c s : Nat) : Prop := ∀ j, j < G.nV → G.step c j s = none

/-- asynchronous update of one variable -/
def Graph.stepRel (G : Graph) (c s t : Nat) : Prop := ∃ j, j < G.nV ∧ G.step c j s = some t

/-- the transition relation of colour `c`, made total by self-loops on steady states -/
def Graph.R (G : Graph) (c s t : Nat) : Prop := G.stepRel c s t ∨ (G.isSteady c s ∧ t = s)

/-- the evaluation context: sets of the wild-card propositions and of the domains -/
structure SemCtx where
  wild : Name → Option CSet
  dom : Name → Option CSet

/-- is the state of `p` inside the (optional) domain, for `p`'s colour -/
def inDom (K : SemCtx) (d : Option Name) (p : Point) : Prop :=
  match d with
  | none => True
  | some l => ∃ a, K.dom l = some a ∧ a p = true

def untilOn (φ ψ : Nat → Prop) (π : Nat → Nat) : Prop := ∃ i, ψ (π i) ∧ ∀ j, j < i → φ (π j)

/-- Satisfaction.  Path quantifiers range over the infinite paths of `G.R c`. -/
def sat (G : Graph) (K : SemCtx) : Tree → Point → Prop
  | .atom .tt, _ => True
  | .atom .ff, _ => False
  | .atom (.prop n), p => ∃ f, G.label n = some f ∧ f p.s = true
  | .atom (.var x), p => p.getV (varId x) = p.s
  | .atom (.wild w), p => ∃ a, K.wild w = some a ∧ a p = true
  | .un .not φ, p => ¬ sat G K φ p
  | .un .ex φ, p => ∃ t, G.R p.c p.s t ∧ sat G K φ (p.setS t)
  | .un .ax φ, p => ∀ t, G.R p.c p.s t → sat G K φ (p.setS t)
  | .un .ef φ, p => ∃ π : Path (G.R p.c) p.s, ∃ i, sat G K φ (p.setS (π.π i))
  | .un .af φ, p => ∀ π : Path (G.R p.c) p.s, ∃ i, sat G K φ (p.setS (π.π i))
  | .un .eg φ, p => ∃ π : Path (G.R p.c) p.s, ∀ i, sat G K φ (p.setS (π.π i))
  | .un .ag φ, p => ∀ π : Path (G.R p.c) p.s, ∀ i, sat G K φ (p.setS (π.π i))
  | .bin .and φ ψ, p => sat G K φ p ∧ sat G K ψ p
  | .bin .or φ ψ, p => sat G K φ p ∨ sat G K ψ p
  | .bin .xor φ ψ, p => ¬ (sat G K φ p ↔ sat G K ψ p)
  | .bin .imp φ ψ, p => sat G K φ p → sat G K ψ p
  | .bin .iff φ ψ, p => (sat G K φ p ↔ sat G K ψ p)
  | .bin .eu φ ψ, p => ∃ π : Path (G.R p.c) p.s,
      untilOn (fun t => sat G K φ (p.setS t)) (fun t => sat G K ψ (p.setS t)) π.π
  | .bin .au φ ψ, p => ∀ π : Path (G.R p.c) p.s,
      untilOn (fun t => sat G K φ (p.setS t)) (fun t => sat G K ψ (p.setS t)) π.π
  | .bin .ew φ ψ, p => ∃ π : Path (G.R p.c) p.s,
      untilOn (fun t => sat G K φ (p.setS t)) (fun t => sat G K ψ (p.setS t)) π.π ∨
      ∀ i, sat G K φ (p.setS (π.π i))
  | .bin .aw φ ψ, p => ∀ π : Path (G.R p.c) p.s,
      untilOn (fun t => sat G K φ (p.setS t)) (fun t => sat G K ψ (p.setS t)) π.π ∨
      ∀ i, sat G K φ (p.setS (π.π i))
  | .hyb .bind x d φ, p => inDom K d p ∧ sat G K φ (p.setV (varId x) p.s)
  | .hyb .jump x _ φ, p => sat G K φ (p.setS (p.getV (varId x)))
  | .hyb .ex x d φ, p => ∃ t, t < G.nS ∧ inDom K d (p.setS t) ∧ sat G K φ (p.setV (varId x) t)
  | .hyb .all x d φ, p => ∀ t, t < G.nS → inDom K d (p.setS t) → sat G K φ (p.setV (varId x) t)

end Hctl
