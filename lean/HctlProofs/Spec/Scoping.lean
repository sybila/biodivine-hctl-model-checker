/-
  Predicates on syntax trees that statements are made of: the scope rules preprocessing enforces (`Scoped`: exactly
  what `rename` accepts, `C07.rename_ok_iff`), the shape of its output (`DepthNamed`: variables are `x`, `xx`, … by
  nesting depth) and the same read through `varId` with `k` variable sets available: `DepthNamed d t` and
  `d + depth t ≤ k` give `WellScoped k d t`, which gives `WellNamed k d t`.  `toDB` is the independent alpha-normal form.
-/
import HctlProofs.Spec.Grammar
import HctlProofs.Spec.Semantics
import HctlModel.Dups
namespace Hctl

def Plain : Tree → Prop
  | .atom (.wild _) => False
  | .atom _ => True
  | .un _ c => Plain c
  | .bin _ l r => Plain l ∧ Plain r
  | .hyb _ _ d c => d = none ∧ Plain c

def PlainLeaf : Leaf → Prop
  | .hyb _ _ d => d = none
  | .atom (.wild _) => False
  | _ => True

def PlainToks (ts : List Tok) : Prop := ∀ l ∈ Tok.flatList ts, PlainLeaf l

def PlainTok (t : Tok) : Prop := ∀ l ∈ t.flat, PlainLeaf l

namespace C07
def PropsOK (isNetVar : Name → Bool) : Tree → Prop
  | .atom (.prop n) => isNetVar n = true
  | .atom _ => True
  | .un _ c => PropsOK isNetVar c
  | .bin _ l r => PropsOK isNetVar l ∧ PropsOK isNetVar r
  | .hyb _ _ _ c => PropsOK isNetVar c
end C07

/-- the scope rules: every variable / jump target lies in the scope of a quantifier for it, no variable is
re-quantified inside its own scope, every proposition names a network variable -/
def Scoped (isNetVar : Name → Bool) : List Name → Tree → Prop
  | sc, .atom (.var x) => x ∈ sc
  | _, .atom (.prop n) => isNetVar n = true
  | _, .atom _ => True
  | sc, .un _ c => Scoped isNetVar sc c
  | sc, .bin _ l r => Scoped isNetVar sc l ∧ Scoped isNetVar sc r
  | sc, .hyb o x _ c =>
    if o = .jump then x ∈ sc ∧ Scoped isNetVar sc c
    else x ∉ sc ∧ Scoped isNetVar (x :: sc) c

def xs (n : Nat) : Name := List.replicate n 'x'

def DepthNamed : Nat → Tree → Prop
  | d, .atom (.var x) => ∃ i, i < d ∧ x = xs (i + 1)
  | _, .atom _ => True
  | d, .un _ c => DepthNamed d c
  | d, .bin _ l r => DepthNamed d l ∧ DepthNamed d r
  | d, .hyb o x _ c =>
    if o = .jump then (∃ i, i < d ∧ x = xs (i + 1)) ∧ DepthNamed d c
    else x = xs (d + 1) ∧ DepthNamed (d + 1) c

def WellNamed (k : Nat) : Nat → Tree → Prop
  | _, .atom _ => True
  | d, .un _ c => WellNamed k d c
  | d, .bin _ l r => WellNamed k d l ∧ WellNamed k d r
  | d, .hyb o x _ c => if o = .jump then WellNamed k d c else varId x = d ∧ d < k ∧ WellNamed k (d + 1) c

/-- like `WellNamed`, and additionally every variable occurrence / jump refers to an enclosing quantifier -/
def WellScoped (k : Nat) : Nat → Tree → Prop
  | d, .atom (.var x) => varId x < d
  | _, .atom _ => True
  | d, .un _ c => WellScoped k d c
  | d, .bin _ l r => WellScoped k d l ∧ WellScoped k d r
  | d, .hyb o x _ c =>
    if o = .jump then varId x < d ∧ WellScoped k d c
    else varId x = d ∧ d < k ∧ WellScoped k (d + 1) c

/-- every domain label of the formula has a context set. A premise of every theorem about the evaluators: for a label
without a set `inDom` is false, so in `sat` a `∀` over that domain holds vacuously, while the evaluators return the empty
set for every quantifier over it (the entry points reject such input before evaluating). -/
def DomsIn (K : SemCtx) : Tree → Prop
  | .atom _ => True
  | .un _ c => DomsIn K c
  | .bin _ l r => DomsIn K l ∧ DomsIn K r
  | .hyb _ _ none c => DomsIn K c
  | .hyb _ _ (some l) c => (∃ a, K.dom l = some a) ∧ DomsIn K c

def wildLabels : Tree → List Name
  | .atom (.wild w) => [w]
  | .atom _ => []
  | .un _ c => wildLabels c
  | .bin _ l r => wildLabels l ++ wildLabels r
  | .hyb _ _ _ c => wildLabels c

def domLabels : Tree → List Name
  | .atom _ => []
  | .un _ c => domLabels c
  | .bin _ l r => domLabels l ++ domLabels r
  | .hyb _ _ none c => domLabels c
  | .hyb _ _ (some d) c => d :: domLabels c

namespace C09
def varNames : Tree → List Name
  | .atom (.var x) => [x]
  | .atom _ => []
  | .un _ c => varNames c
  | .bin _ l r => varNames l ++ varNames r
  | .hyb _ x _ c => x :: varNames c
end C09
open C09

def OnlyVar (v : Name) (t : Tree) : Prop := ∀ x ∈ varNames t, x = v

def Tree.mapVars (f : Name → Name) : Tree → Tree
  | .atom (.var x) => .atom (.var (f x))
  | .atom a => .atom a
  | .un o c => .un o (c.mapVars f)
  | .bin o l r => .bin o (l.mapVars f) (r.mapVars f)
  | .hyb o x d c => .hyb o (f x) d (c.mapVars f)

def mapKeys (f : Name → Name) (m : List (Name × Name)) : List (Name × Name) := m.map (fun e => (f e.1, e.2))

inductive DVar
  | bound (i : Nat)
  | free (x : Name)
  deriving DecidableEq, Repr

/-- formulae with variable names erased: bound variables by distance to their binder -/
inductive DBT
  | atom (a : Atom)
  | var (v : DVar)
  | un (o : UnOp) (c : DBT)
  | bin (o : BinOp) (l r : DBT)
  | jump (v : DVar) (d : Option Name) (c : DBT)
  | quant (o : HybOp) (d : Option Name) (c : DBT)
  deriving DecidableEq, Repr

def idxIn (x : Name) : List Name → Option Nat
  | [] => none
  | y :: ys => if x = y then some 0 else (idxIn x ys).map (· + 1)

def dvar (scope : List Name) (x : Name) : DVar :=
  match idxIn x scope with
  | some i => .bound i
  | none => .free x

/-- the independent normaliser: erase names, innermost binder first -/
def toDB : List Name → Tree → DBT
  | sc, .atom (.var x) => .var (dvar sc x)
  | _, .atom a => .atom a
  | sc, .un o c => .un o (toDB sc c)
  | sc, .bin o l r => .bin o (toDB sc l) (toDB sc r)
  | sc, .hyb o x d c => if o = .jump then .jump (dvar sc x) d (toDB sc c) else .quant o d (toDB (x :: sc) c)

def fvdFrom : Nat → List (Option Name) → DomMap
  | _, [] => []
  | i, o :: os => (xs (i + 1), o) :: fvdFrom (i + 1) os

/-- `free_var_domains` while the quantifiers `x, xx, …` with the given domain labels are open -/
def fvdOf (ds : List (Option Name)) : DomMap := fvdFrom 0 ds

end Hctl
