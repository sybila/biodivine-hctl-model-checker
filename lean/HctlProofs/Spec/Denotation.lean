/-
  The explicit-state denotation, as far as statements need it: when a set of points denotes a property in a unit set
  (`Sem`), and what the theorems assume of the tabulation, the graph, the unit sets and the context sets.  Each of
  these is a hypothesis of theorems, never an axiom; DESIGN.md §11.4 says how each is exercised on every run.
  `AttrSpec` is not assumed: the model's attractor computation is proved to meet it (`attrSpec`).
-/
import HctlProofs.Spec.Semantics
namespace Hctl

/-- inclusion and equality of sets, as the BDD library sees them: on the points of the universe -/
def SubOn (pts : List Point) (a b : CSet) : Prop := ∀ p ∈ pts, a p = true → b p = true

def EqOn (pts : List Point) (a b : CSet) : Prop := ∀ p ∈ pts, a p = b p

def card (pts : List Point) (a : CSet) : Nat := pts.countP (fun p => a p)

structure EnvOK (E : Env) : Prop where
  tab_ok : ∀ (f : CSet) p, p ∈ E.pts → E.tab f p = f p
  pts_eq : E.pts = E.G.points

/-- the library's transition structure stays inside the state space -/
structure GraphWF (G : Graph) : Prop where
  step_lt : ∀ c j s t, G.step c j s = some t → s < G.nS → t < G.nS

namespace C12
/-- asynchronous update: a transition changes the state -/
structure GraphAsync (G : Graph) : Prop where
  step_ne : ∀ c j s t, G.step c j s = some t → t ≠ s
end C12

/-- specification of the attractor computation: the points of the unit in terminal SCCs of their colour -/
def AttrSpec (E : Env) : Prop :=
  ∀ U : CSet, ∀ p ∈ E.pts, (Ops.attractorsOf E U p = true ↔ (U p = true ∧
    ∀ u, StarIn (E.G.stepRel p.c) (fun _ => True) p.s u → StarIn (E.G.stepRel p.c) (fun _ => True) u p.s))

def Sem (E : Env) (a U : CSet) (φ : Point → Prop) : Prop :=
  ∀ p ∈ E.pts, (a p = true ↔ (U p = true ∧ φ p))

def SteadyOK (E : Env) (U0 st : CSet) : Prop :=
  ∀ p ∈ E.pts, (st p = true ↔ (U0 p = true ∧ E.G.isSteady p.c p.s))

/-- what is needed of a unit set at quantifier nesting depth `d`: it constrains colours and the
variables of the enclosing quantifiers only -/
structure UnitOK (E : Env) (U0 st U : CSet) (d : Nat) : Prop where
  steady : SteadyOK E U0 st
  stateIndep : ∀ p ∈ E.pts, ∀ t, t < E.G.nS → U (p.setS t) = U p
  indepFrom : ∀ p ∈ E.pts, ∀ i t, d ≤ i → t < E.G.nS → U (p.setV i t) = U p
  sub0 : ∀ p ∈ E.pts, U p = true → U0 p = true

/-- what the cache-free evaluator needs of the domain sets (on the universe only; `CtxSC` implies it) -/
structure CtxOK (E : Env) (K : SemCtx) : Prop where
  domIndep : ∀ l a, K.dom l = some a → ∀ p ∈ E.pts, ∀ i t, t < E.G.nS → a (p.setV i t) = a p

/-- the sets of the context, wild-card and domain, depend on state and colour only ("SC"), at every point; what the cache needs -/
structure CtxSC (K : SemCtx) : Prop where
  wild : ∀ w a, K.wild w = some a → ∀ q q' : Point, q.s = q'.s → q.c = q'.c → a q = a q'
  dom : ∀ l a, K.dom l = some a → ∀ q q' : Point, q.s = q'.s → q.c = q'.c → a q = a q'

/-- a context set that does not depend on the variable slots (what the API documents for wild-card / domain sets) -/
def SetSC (s : CSet) : Prop := ∀ q q' : Point, q.s = q'.s → q.c = q'.c → s q = s q'

def noCtx' : SemCtx := ⟨fun _ => none, fun _ => none⟩

abbrev noCtx : SemCtx := noCtx'

/-- colour `c` of `G` behaves like colour `c'` of `G'` (instantiated networks; `G' = G` with other colours changed) -/
structure AgreeCol (G G' : Graph) (c c' : Nat) : Prop where
  nV : G.nV = G'.nV
  nS : G.nS = G'.nS
  step : ∀ j s, G.step c j s = G'.step c' j s
  label : G.label = G'.label

/-- what the entry points compute when nothing is shared -/
def evalTop (E : Env) (K : SemCtx) (t : Tree) : CSet :=
  Eval.evalPure E (Ops.steadyOf E E.G.unit0) K.wild K.dom t E.G.unit0

end Hctl
