/-
  The lexical specification: what is assumed of Rust's character classes, which strings are identifiers, which texts
  spell which token lists (`Sp` — the statement the tokenizer is proved to meet in both directions), and which trees
  are syntax trees over valid identifiers.
-/
import HctlModel.Lexer
import HctlModel.Parser
namespace Hctl
namespace Lex

/-- the characters the tokenizer branches on or that end a name in a rendering -/
def specials : List Char := ['~','&','|','^','=','<','>','!','@','\\','(',')','{','}','%',':',' ']

/-- What is assumed of Rust's `char::is_alphanumeric` / `is_whitespace` (the harness checks it against `std` for every scalar value).
`letters` are those of the keywords and generated names: `True`/`False`, the temporal letters, `in`, `3`/`V`, `x…x`, `var<n>`,
`exists`/`forall`/`bind`/`jump`. -/
structure CharsOK (K : CharClass) : Prop where
  ws_not_name : ∀ c, K.isWs c = true → isName K c = false
  special_not_name : ∀ c ∈ specials, isName K c = false
  special_not_ws : ∀ c ∈ specials, c ≠ ' ' → K.isWs c = false
  space_ws : K.isWs ' ' = true
  letters : ∀ c ∈ ['T','r','u','e','F','a','l','s','X','G','U','W','E','A','i','n','V','3','x','v','t','f','o','b','d','j','m','p'], K.isAlnum c = true
  digits : ∀ c : Char, c.isDigit = true → K.isAlnum c = true

/-- the one fact of `CharsOK` that the comparison of the plain and the extended tokenizer needs -/
structure CharOK (K : CharClass) : Prop where
  pct : K.isAlnum '%' = false

def Sep (K : CharClass) (rest : List Char) : Prop := ∀ c, rest.head? = some c → isName K c = false

/-- identifiers inside braces / percent signs -/
def ValidId (K : CharClass) (n : Name) : Prop := n ≠ [] ∧ ∀ c ∈ n, isName K c = true

/-- proposition names the tokenizer can produce: additionally not spelled like an operator -/
def ValidName (K : CharClass) (n : Name) : Prop :=
  ValidId K n ∧ n ≠ ['3'] ∧ n ≠ ['V'] ∧ ∀ c c2, n = [c, c2] → tempUn c c2 = none

def AllWs (K : CharClass) (w : List Char) : Prop := ∀ c ∈ w, K.isWs c = true

/-- Specification of the segment after a hybrid operator: `{var}`, optionally `in %domain%` (only when domains are
parsed), then `:` — with optional white space at the four places the tokenizer skips it -/
inductive Seg (K : CharClass) : Bool → List Char → Name → Option Name → Prop
  | plain (pd : Bool) (w1 w2 : List Char) (v : Name) : AllWs K w1 → AllWs K w2 → ValidId K v →
      Seg K pd (w1 ++ '{' :: (v ++ '}' :: (w2 ++ [':']))) v none
  | dom (w1 w2 w3 w4 : List Char) (v dn : Name) : AllWs K w1 → AllWs K w2 → AllWs K w3 → AllWs K w4 →
      ValidId K v → ValidId K dn →
      Seg K true (w1 ++ '{' :: (v ++ '}' :: (w2 ++ 'i' :: 'n' :: (w3 ++ '%' :: (dn ++ '%' :: (w4 ++ [':'])))))) v (some dn)

/-- Specification of the tokenizer: which texts spell which token lists (one group level; `(`…`)` nests).  Names are
maximal runs of name characters (`Sep`) that are not spelled like an operator. -/
inductive Sp (K : CharClass) (ext : Bool) : List Char → List Tok → Prop
  | nil : Sp K ext [] []
  | ws (c : Char) (cs : List Char) (ts : List Tok) : K.isWs c = true → Sp K ext cs ts → Sp K ext (c :: cs) ts
  | not (cs : List Char) (ts : List Tok) : Sp K ext cs ts → Sp K ext ('~' :: cs) (.un .not :: ts)
  | binsym (o : BinOp) (cs : List Char) (ts : List Tok) : (o = .and ∨ o = .or ∨ o = .xor ∨ o = .imp ∨ o = .iff) →
      Sp K ext cs ts → Sp K ext (o.str ++ cs) (.bin o :: ts)
  | temp (a b : Char) (t : Tok) (cs : List Char) (ts : List Tok) : tempUn a b = some t → Sep K cs →
      Sp K ext cs ts → Sp K ext (a :: b :: cs) (t :: ts)
  | hybShort (o : HybOp) (seg : List Char) (v : Name) (d : Option Name) (cs : List Char) (ts : List Tok) :
      Seg K (if o = .jump then false else ext) seg v d → Sp K ext cs ts →
      Sp K ext (o.str ++ (seg ++ cs)) (.hyb o v d :: ts)
  | hybLong (o : HybOp) (nm seg : List Char) (v : Name) (d : Option Name) (cs : List Char) (ts : List Tok) :
      hybOfLong nm = some o → Seg K (if o = .jump then false else ext) seg v d → Sp K ext cs ts →
      Sp K ext ('\\' :: (nm ++ (seg ++ cs))) (.hyb o v d :: ts)
  | group (inner : List Char) (tsi : List Tok) (cs : List Char) (ts : List Tok) : Sp K ext inner tsi → Sp K ext cs ts →
      Sp K ext ('(' :: (inner ++ ')' :: cs)) (.group tsi :: ts)
  | var (v : Name) (cs : List Char) (ts : List Tok) : ValidId K v → Sp K ext cs ts →
      Sp K ext ('{' :: (v ++ '}' :: cs)) (.atom (.var v) :: ts)
  | wild (v : Name) (cs : List Char) (ts : List Tok) : ext = true → ValidId K v → Sp K ext cs ts →
      Sp K ext ('%' :: (v ++ '%' :: cs)) (.atom (.wild v) :: ts)
  | name (n : Name) (cs : List Char) (ts : List Tok) : ValidName K n → Sep K cs → Sp K ext cs ts →
      Sp K ext (n ++ cs) (.atom (.prop n) :: ts)

/-- trees whose identifiers the tokenizer can produce (what "valid identifiers" means for the constructors) -/
def TreeOK (K : CharClass) : Tree → Prop
  | .atom (.prop n) => ValidName K n
  | .atom (.var v) => ValidId K v
  | .atom (.wild v) => ValidId K v
  | .atom _ => True
  | .un _ c => TreeOK K c
  | .bin _ l r => TreeOK K l ∧ TreeOK K r
  | .hyb o v d c => ValidId K v ∧ (match d with | none => True | some dn => o ≠ .jump ∧ ValidId K dn) ∧ TreeOK K c

end Lex

/-- identifiers for which printing is unambiguous: a proposition must not be spelled like a constant -/
def PropNamesOK : Tree → Prop
  | .atom (.prop n) => constOrProp n = .atom (.prop n)
  | .atom _ => True
  | .un _ c => PropNamesOK c
  | .bin _ l r => PropNamesOK l ∧ PropNamesOK r
  | .hyb _ _ _ c => PropNamesOK c

/-- the tokens of the canonical fully parenthesised rendering -/
def canonToks : Tree → List Tok
  | .atom .tt => [.atom (.prop ['T','r','u','e'])]
  | .atom .ff => [.atom (.prop ['F','a','l','s','e'])]
  | .atom a => [.atom a]
  | .un o c => [.group (.un o :: canonToks c)]
  | .bin o l r => [.group (canonToks l ++ .bin o :: canonToks r)]
  | .hyb o v d c => [.group (.hyb o v d :: canonToks c)]

end Hctl
