/-
  Transition systems: infinite paths and the (co)inductive forms of the until and globally operators that the
  reference semantics and the fixed-point laws are stated with.
-/
namespace Hctl.Kripke

variable {α : Type}

structure Path (R : α → α → Prop) (s : α) where
  π : Nat → α
  h0 : π 0 = s
  hstep : ∀ i, R (π i) (π (i + 1))

inductive EUi (R : α → α → Prop) (φ ψ : α → Prop) : α → Prop
  | here {s} : ψ s → EUi R φ ψ s
  | step {s t} : φ s → R s t → EUi R φ ψ t → EUi R φ ψ s

/-- greatest fixed point, given by a post-fixed point `X` that contains `s` -/
def EGc (R : α → α → Prop) (φ : α → Prop) (s : α) : Prop :=
  ∃ X : α → Prop, X s ∧ ∀ x, X x → φ x ∧ ∃ y, R x y ∧ X y

inductive AUi (R : α → α → Prop) (φ ψ : α → Prop) : α → Prop
  | here {s} : ψ s → AUi R φ ψ s
  | step {s} : φ s → (∀ t, R s t → AUi R φ ψ t) → AUi R φ ψ s

end Hctl.Kripke

namespace Hctl
variable {α : Type}

/-- `φ` is not asked of the last state -/
inductive StarIn (R : α → α → Prop) (φ : α → Prop) : α → α → Prop
  | refl (s) : StarIn R φ s s
  | step {s t u} : φ s → R s t → StarIn R φ t u → StarIn R φ s u

end Hctl
