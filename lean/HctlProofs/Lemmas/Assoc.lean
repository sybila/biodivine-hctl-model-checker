/-
  Association lists with `HashMap` semantics.  The model stores every map of the Rust code as a list of pairs read
  with `List.lookup`; insertion is "cons after filtering the key out", removal is the filter alone.
-/
namespace Hctl
variable {α β : Type} [BEq α] [LawfulBEq α]

theorem lookup_cons_eq [DecidableEq α] (k k' : α) (v : β) (l : List (α × β)) :
    ((k', v) :: l).lookup k = if k = k' then some v else l.lookup k := by
  by_cases h : k = k'
  · subst h; simp
  · rw [List.lookup_cons, beq_eq_false_iff_ne.mpr h, if_neg h]

theorem mem_of_lookup {k : α} {v : β} {l : List (α × β)} (h : l.lookup k = some v) : (k, v) ∈ l := by
  obtain ⟨l₁, l₂, rfl, _⟩ := List.lookup_eq_some_iff.mp h
  simp

theorem lookup_ne_none_of_mem {k : α} {v : β} {l : List (α × β)} (h : (k, v) ∈ l) : l.lookup k ≠ none := by
  intro hl
  simpa using List.lookup_eq_none_iff.mp hl _ h

theorem lookup_of_mem {k : α} {v : β} {l : List (α × β)} (hfun : ∀ v', (k, v') ∈ l → v' = v) (h : (k, v) ∈ l) :
    l.lookup k = some v := by
  cases hl : l.lookup k with
  | none => exact absurd hl (lookup_ne_none_of_mem h)
  | some v' => rw [hfun v' (mem_of_lookup hl)]

theorem mem_vals_of_lookup {k : α} {v : β} {l : List (α × β)} (h : l.lookup k = some v) : v ∈ l.map Prod.snd :=
  List.mem_map_of_mem (f := Prod.snd) (mem_of_lookup h)

theorem lookup_isSome_iff_mem_keys {l : List (α × β)} {k : α} : (l.lookup k).isSome = true ↔ k ∈ l.map Prod.fst := by
  rw [List.lookup_isSome_iff]
  simp only [beq_iff_eq, List.mem_map]
  exact ⟨fun ⟨p, hp, h⟩ => ⟨p, hp, h.symm⟩, fun ⟨p, hp, h⟩ => ⟨p, hp, h.symm⟩⟩

theorem lookup_eq_none_iff_not_mem_keys {l : List (α × β)} {k : α} : l.lookup k = none ↔ k ∉ l.map Prod.fst := by
  rw [← lookup_isSome_iff_mem_keys, Bool.not_eq_true, Option.isSome_eq_false_iff, Option.isNone_iff_eq_none]

theorem lookup_of_mem_nodup [DecidableEq α] {k : α} {v : β} :
    ∀ {l : List (α × β)}, (l.map Prod.fst).Nodup → (k, v) ∈ l → l.lookup k = some v
  | (k', v') :: l, hn, h => by
    rw [List.map_cons, List.nodup_cons] at hn
    rw [lookup_cons_eq]
    rcases List.mem_cons.mp h with h | h
    · cases h; simp
    · have hk : k ≠ k' := fun hk => hn.1 (hk ▸ List.mem_map.mpr ⟨(k, v), h, rfl⟩)
      rw [if_neg hk]
      exact lookup_of_mem_nodup hn.2 h

theorem lookup_filter_ne [DecidableEq α] {k k0 : α} (h : k ≠ k0) (l : List (α × β)) :
    (l.filter (fun e => e.1 != k0)).lookup k = l.lookup k := by
  induction l with
  | nil => rfl
  | cons e l ih =>
    obtain ⟨k', v⟩ := e
    by_cases hk : k' = k0
    · subst hk; simp [lookup_cons_eq, h, ih]
    · simp [hk, lookup_cons_eq, ih]

theorem lookup_filter_self (k : α) (l : List (α × β)) : (l.filter (fun e => e.1 != k)).lookup k = none := by
  rw [lookup_eq_none_iff_not_mem_keys]
  simp [List.mem_filter]

/-- `HashMap::insert` -/
theorem lookup_insert [DecidableEq α] (k k0 : α) (v : β) (l : List (α × β)) :
    ((k0, v) :: l.filter (fun e => e.1 != k0)).lookup k = if k = k0 then some v else l.lookup k := by
  rw [lookup_cons_eq]
  split
  · rfl
  · next h => exact lookup_filter_ne h l

theorem mem_insert {k0 : α} {v : β} {l : List (α × β)} {e : α × β} :
    e ∈ (k0, v) :: l.filter (fun e => e.1 != k0) ↔ e = (k0, v) ∨ (e.1 ≠ k0 ∧ e ∈ l) := by
  simp [List.mem_filter, and_comm]

/-- a loop of `HashMap::insert`s over distinct keys -/
theorem lookup_foldl_insert [DecidableEq α] (k : α) :
    ∀ (l acc : List (α × β)), (l.map Prod.fst).Nodup →
      (l.foldl (fun acc e => (e.1, e.2) :: acc.filter (fun x => x.1 != e.1)) acc).lookup k =
        (l.lookup k).or (acc.lookup k) := by
  intro l
  induction l with
  | nil => intro acc _; rfl
  | cons e l ih =>
    intro acc hn
    rw [List.map_cons, List.nodup_cons] at hn
    rw [List.foldl_cons, ih _ hn.2, lookup_insert, lookup_cons_eq]
    by_cases h : k = e.1
    · subst h
      rw [if_pos rfl, if_pos rfl, lookup_eq_none_iff_not_mem_keys.mpr hn.1]
      rfl
    · rw [if_neg h, if_neg h]

end Hctl
