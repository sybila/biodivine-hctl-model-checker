/-
  How the tree predicates of `Spec/Scoping.lean` hang together: `DepthNamed` (what preprocessing produces) gives
  `WellScoped` (what the cached evaluator needs) once the graph has variable sets enough, `WellScoped` gives
  `WellNamed` (what the cache-free evaluator needs); `DomsIn` and `WildsIn` are statements about `domLabels` and `wildLabels`.
-/
import HctlProofs.Lemmas.CacheDefs
import HctlModel.Rename
namespace Hctl
open C09

@[simp] theorem xs_length (n : Nat) : (xs n).length = n := by simp [xs]

theorem xs_succ (n : Nat) : xs n ++ ['x'] = xs (n + 1) := by
  simp [xs, List.replicate_succ']

theorem varId_xs (n : Nat) : varId (xs (n + 1)) = n := by simp [varId]

theorem xs_inj {a b : Nat} (h : xs a = xs b) : a = b := by
  have := congrArg List.length h
  simpa using this

theorem WellScoped.wellNamed {k : Nat} : ∀ {t d}, WellScoped k d t → WellNamed k d t := by
  intro t
  induction t with
  | atom a => intro d _; simp [WellNamed]
  | un o c ih => intro d h; exact ih h
  | bin o l r ihl ihr => intro d h; exact ⟨ihl h.1, ihr h.2⟩
  | hyb o x dom c ih =>
    intro d h
    simp only [WellScoped, WellNamed] at h ⊢
    by_cases hj : o = .jump
    · simp only [hj, if_true] at h ⊢; exact ih h.2
    · simp only [hj, if_false] at h ⊢; exact ⟨h.1, h.2.1, ih h.2.2⟩

theorem DepthNamed.wellScoped {k : Nat} : ∀ {t d}, DepthNamed d t → d + t.depth ≤ k → WellScoped k d t := by
  intro t
  induction t with
  | atom a =>
    intro d h _
    cases a with
    | var x =>
      obtain ⟨i, hi, rfl⟩ := h
      simp only [WellScoped, varId_xs]
      exact hi
    | _ => trivial
  | un o c ih => intro d h hk; exact ih h hk
  | bin o l r ihl ihr =>
    intro d h hk
    simp only [Tree.depth] at hk
    exact ⟨ihl h.1 (by omega), ihr h.2 (by omega)⟩
  | hyb o x dom c ih =>
    intro d h hk
    simp only [DepthNamed, WellScoped, Tree.depth] at h hk ⊢
    by_cases hj : o = .jump
    · simp only [hj, if_true] at h hk ⊢
      obtain ⟨⟨i, hi, rfl⟩, hc⟩ := h
      exact ⟨by rw [varId_xs]; exact hi, ih hc hk⟩
    · simp only [hj, if_false] at h hk ⊢
      obtain ⟨rfl, hc⟩ := h
      exact ⟨varId_xs d, by omega, ih hc (by omega)⟩

theorem depthNamed_names : ∀ (t : Tree) (d : Nat), DepthNamed d t → ∀ x ∈ varNames t, ∃ i, x = xs (i + 1) := by
  intro t
  induction t with
  | atom a =>
    intro d h
    cases a with
    | var v => exact List.forall_mem_singleton.mpr (h.imp fun _ hi => hi.2)
    | _ => exact fun _ hx => nomatch hx
  | un o c ih => exact ih
  | bin o l r ihl ihr => intro d h; exact List.forall_mem_append.mpr ⟨ihl d h.1, ihr d h.2⟩
  | hyb o v dom c ih =>
    intro d h
    simp only [DepthNamed] at h
    refine List.forall_mem_cons.mpr ?_
    split at h
    · exact ⟨h.1.imp fun _ hi => hi.2, ih d h.2⟩
    · exact ⟨⟨d, h.1⟩, ih (d + 1) h.2⟩

theorem wellScoped_varId : ∀ (t : Tree) (k d : Nat), WellScoped k d t → d ≤ k → ∀ x ∈ varNames t, varId x < k := by
  intro t
  induction t with
  | atom a =>
    intro k d h hd
    cases a with
    | var v => exact List.forall_mem_singleton.mpr (Nat.lt_of_lt_of_le h hd)
    | _ => exact fun _ hx => nomatch hx
  | un o c ih => exact ih
  | bin o l r ihl ihr => intro k d h hd; exact List.forall_mem_append.mpr ⟨ihl k d h.1 hd, ihr k d h.2 hd⟩
  | hyb o v dom c ih =>
    intro k d h hd
    simp only [WellScoped] at h
    refine List.forall_mem_cons.mpr ?_
    split at h
    · exact ⟨Nat.lt_of_lt_of_le h.1 hd, ih k d h.2 hd⟩
    · exact ⟨h.1 ▸ h.2.1, ih k (d + 1) h.2.2 h.2.1⟩

theorem Plain.domsIn (K : SemCtx) : ∀ {t}, Plain t → DomsIn K t := by
  intro t
  induction t with
  | atom a => intro _; simp [DomsIn]
  | un o c ih => intro h; exact ih h
  | bin o l r ihl ihr => intro h; exact ⟨ihl h.1, ihr h.2⟩
  | hyb o x d c ih =>
    intro h
    obtain ⟨rfl, hc⟩ := h
    exact ih hc

theorem DomsIn.body {K : SemCtx} {o : HybOp} {x : Name} {d : Option Name} {c : Tree} (h : DomsIn K (.hyb o x d c)) :
    DomsIn K c := by
  cases d with
  | none => exact h
  | some _ => exact h.2

theorem domsIn_iff (K : SemCtx) : ∀ t, DomsIn K t ↔ ∀ d ∈ domLabels t, ∃ a, K.dom d = some a := by
  intro t
  induction t with
  | atom a => simp [DomsIn, domLabels]
  | un o c ih => simpa [DomsIn, domLabels] using ih
  | bin o l r ihl ihr =>
    simp only [DomsIn, domLabels, List.mem_append, ihl, ihr]
    constructor
    · rintro ⟨h1, h2⟩ w (hw | hw); exact h1 w hw; exact h2 w hw
    · intro h; exact ⟨fun w hw => h w (Or.inl hw), fun w hw => h w (Or.inr hw)⟩
  | hyb o x d c ih =>
    cases d with
    | none => simpa [DomsIn, domLabels] using ih
    | some l => simp [DomsIn, domLabels, ih]

theorem wildsIn_iff (K : SemCtx) : ∀ t, WildsIn K t ↔ ∀ w ∈ wildLabels t, ∃ a, K.wild w = some a := by
  intro t
  induction t with
  | atom a => cases a <;> simp [WildsIn, wildLabels]
  | un o c ih => simpa [WildsIn, wildLabels] using ih
  | bin o l r ihl ihr =>
    simp only [WildsIn, wildLabels, List.mem_append, ihl, ihr]
    constructor
    · rintro ⟨h1, h2⟩ w (hw | hw); exact h1 w hw; exact h2 w hw
    · intro h; exact ⟨fun w hw => h w (Or.inl hw), fun w hw => h w (Or.inr hw)⟩
  | hyb o x d c ih => simpa [WildsIn, wildLabels] using ih

theorem wildLabels_valid {C : CharClass} : ∀ (t : Tree), Lex.TreeOK C t → ∀ w ∈ wildLabels t, Lex.ValidId C w := by
  intro t
  induction t with
  | atom a => intro h w hw; cases a <;> simp_all [wildLabels, Lex.TreeOK]
  | un o c ih => intro h w hw; exact ih h w hw
  | bin o l r ihl ihr =>
    intro h w hw
    simp only [wildLabels, List.mem_append] at hw
    rcases hw with hw | hw
    · exact ihl h.1 w hw
    · exact ihr h.2 w hw
  | hyb o x d c ih => intro h w hw; simp only [Lex.TreeOK] at h; exact ih h.2.2 w hw

end Hctl
