/-
  `evalNode_sound`, by induction on the node: `Eval.evalNode_eq` splits a call into the frame (`cached_sound`) and the
  node's body, whose recursive calls are legitimate again (`GoodQ.un` … `GoodQ.body`).
-/
import HctlProofs.Lemmas.CacheSound
import HctlProofs.Props.C12
namespace Hctl

section
variable {C : CharClass} {E : Env} {K : SemCtx} {U0 U : CSet} {ds : List (Option Name)}

theorem getElem?_snoc_eq_some {α} (l : List α) (a b : α) (i : Nat) :
    (l ++ [a])[i]? = some b ↔ l[i]? = some b ∨ (i = l.length ∧ a = b) := by
  rcases Nat.lt_trichotomy i l.length with hi | rfl | hi
  · rw [List.getElem?_append_left hi]
    exact ⟨Or.inl, fun h => h.resolve_right fun h' => by omega⟩
  · simp
  · rw [List.getElem?_eq_none (by simp; omega), List.getElem?_eq_none (by omega)]
    exact ⟨fun h => (by cases h), fun h => h.elim (fun h => (by cases h)) fun h' => (by omega)⟩

theorem unitDesc_nil : UnitDesc E K U0 U0 [] := fun p _ => by simp

theorem unitDesc_snoc {U U' : CSet} {ds : List (Option Name)} {dom : Option Name} (h : UnitDesc E K U0 U ds)
    (hmem : ∀ q ∈ E.pts, (U' q = true ↔ (U q = true ∧
      ∀ l a, dom = some l → K.dom l = some a → a (q.setS (q.getV ds.length)) = true))) :
    UnitDesc E K U0 U' (ds ++ [dom]) := by
  intro p hp
  rw [hmem p hp, h p hp, and_assoc]
  refine and_congr_right fun _ => ⟨?_, fun hh => ⟨fun i l a hil => hh i l a ?_, fun l a hd => hh ds.length l a ?_⟩⟩
  · rintro ⟨hh, hd⟩ i l a hil hl
    rcases (getElem?_snoc_eq_some ds dom (some l) i).mp hil with h1 | ⟨rfl, h2⟩
    · exact hh i l a h1 hl
    · exact hd l a h2 hl
  · exact (getElem?_snoc_eq_some ds dom (some l) i).mpr (Or.inl hil)
  · exact (getElem?_snoc_eq_some ds dom (some l) ds.length).mpr (Or.inr ⟨rfl, hd⟩)

theorem unitDesc_snoc_some {U U' dsl : CSet} {ds : List (Option Name)} {l : Name} (hl : K.dom l = some dsl)
    (h : UnitDesc E K U0 U ds)
    (hmem : ∀ q ∈ E.pts, (U' q = true ↔ (U q = true ∧ dsl (q.setS (q.getV ds.length)) = true))) :
    UnitDesc E K U0 U' (ds ++ [some l]) := by
  refine unitDesc_snoc h fun q hq => (hmem q hq).trans (and_congr_right fun _ => ⟨?_, fun hh => hh l dsl rfl hl⟩)
  intro hd l' a hl' ha
  cases hl'
  rw [hl] at ha
  cases ha
  exact hd

theorem GoodQ.un {o : UnOp} {c : Tree} (hq : GoodQ C E K U0 (.un o c) U ds) : GoodQ C E K U0 c U ds :=
  ⟨hq.wscoped, hq.named, hq.dk, hq.domsIn, hq.domsDs, hq.wildsIn, hq.labelled, hq.unit, hq.desc, hq.valid⟩

theorem GoodQ.left {o : BinOp} {l r : Tree} (hq : GoodQ C E K U0 (.bin o l r) U ds) : GoodQ C E K U0 l U ds :=
  ⟨hq.wscoped.1, hq.named.1, hq.dk, hq.domsIn.1, hq.domsDs, hq.wildsIn.1, hq.labelled.1, hq.unit, hq.desc,
    ⟨hq.valid.1.1, hq.valid.2.1⟩⟩

theorem GoodQ.right {o : BinOp} {l r : Tree} (hq : GoodQ C E K U0 (.bin o l r) U ds) : GoodQ C E K U0 r U ds :=
  ⟨hq.wscoped.2, hq.named.2, hq.dk, hq.domsIn.2, hq.domsDs, hq.wildsIn.2, hq.labelled.2, hq.unit, hq.desc,
    ⟨hq.valid.1.2, hq.valid.2.2⟩⟩

theorem GoodQ.jump {v : Name} {dom : Option Name} {c : Tree} (hq : GoodQ C E K U0 (.hyb .jump v dom c) U ds) :
    GoodQ C E K U0 c U ds :=
  ⟨hq.wscoped.2, hq.named.2, hq.dk, hq.domsIn.body, hq.domsDs, hq.wildsIn, hq.labelled, hq.unit, hq.desc,
    ⟨hq.valid.1.2.2, hq.valid.2⟩⟩

theorem GoodQ.body {op : HybOp} {v : Name} {dom : Option Name} {c : Tree} {U' : CSet}
    (hq : GoodQ C E K U0 (.hyb op v dom c) U ds) (hj : op ≠ .jump)
    (hdom : ∀ l, dom = some l → ∃ a, K.dom l = some a)
    (hunit : UnitOK E U0 (Ops.steadyOf E U0) U' (ds.length + 1)) (hdesc : UnitDesc E K U0 U' (ds ++ [dom])) :
    GoodQ C E K U0 c U' (ds ++ [dom]) := by
  have hw := hq.wscoped
  simp only [WellScoped, hj, if_false] at hw
  have hn := hq.named
  simp only [DepthNamed, hj, if_false] at hn
  refine ⟨by simpa using hw.2.2, by simpa using hn.2, by simp; omega, hq.domsIn.body, ?_, hq.wildsIn, hq.labelled,
    by simpa using hunit, hdesc, ⟨hq.valid.1.2.2, hq.valid.2⟩⟩
  intro i l hil
  rcases (getElem?_snoc_eq_some ds dom (some l) i).mp hil with h1 | ⟨_, h2⟩
  · exact hq.domsDs i l h1
  · exact hdom l h2

end

section
variable {C : CharClass} (hC : Lex.CharsOK C) {E : Env} (hE : EnvOK E) (hG : GraphWF E.G) {K : SemCtx} (hK : CtxOK E K) {U0 : CSet}
  (hKS : KeySem C E K U0) (hKW : KeyWild C E K U0) (hA : C12.GraphAsync E.G)
include hC hE hG hK hKS hKW hA

/-- (C04) `eval_node` on a legitimate call, from a context satisfying the invariant: no panic, exactly the satisfaction set
within the current unit, invariant kept, `free_var_domains` restored.  `C04.cache_transparent` supplies `KeySem`/`KeyWild`. -/
theorem evalNode_sound :
    ∀ t U ds ctx, GoodQ C E K U0 t U ds → ctx.fvd = fvdOf ds → CacheOK C E K U0 ctx →
      ∃ r ctx', Eval.evalNode E (Ops.steadyOf E U0) t U ctx = .ok (r, ctx') ∧
        Sem E r U (sat E.G K t) ∧ CacheOK C E K U0 ctx' ∧ ctx'.fvd = ctx.fvd := by
  intro t
  induction t with
  | atom a =>
    intro U ds ctx hq hfvd hc
    rw [Eval.evalNode_eq]
    refine cached_sound hC hE hKS hKW hq hfvd hc fun hnw => ?_
    cases a with
    | tt => exact ⟨true, U, ctx, rfl, fun p _ => by simp [sat], hc, rfl⟩
    | ff => exact ⟨true, CSet.empty, ctx, rfl, fun p _ => by simp [sat, CSet.empty], hc, rfl⟩
    | var n =>
      have hn : varId n < ds.length := hq.wscoped
      have hk : ¬ (varId n ≥ E.G.k) := by have := hq.dk; omega
      refine ⟨true, _, ctx, by rw [Eval.nodeBody, if_neg hk], Sem.tab hE fun p _ => ?_, hc, rfl⟩
      simp only [sat, Ops.comparatorVarState, Bool.and_eq_true, beq_iff_eq]
    | prop n =>
      have hlab : (E.G.label n).isSome = true := hq.labelled
      cases hl' : E.G.label n with
      | none => simp [hl'] at hlab
      | some f =>
        refine ⟨true, _, ctx, by rw [Eval.nodeBody, hl'], Sem.tab hE fun p _ => ?_, hc, rfl⟩
        simp only [sat, Ops.evalProp, Bool.and_eq_true, hl']
        constructor
        · rintro ⟨h1, h2⟩; exact ⟨h2, f, rfl, h1⟩
        · rintro ⟨h2, f', hf', h1⟩; cases hf'; exact ⟨h1, h2⟩
    | wild w => simp [Tree.isWild] at hnw
  | un o c ih =>
    intro U ds ctx hq hfvd hc
    rw [Eval.evalNode_eq]
    refine cached_sound hC hE hKS hKW hq hfvd hc fun _ => ?_
    obtain ⟨cr, ctx1, hev, hsc, hc1, hf1⟩ := ih U ds ctx hq.un hfvd hc
    exact ⟨true, _, ctx1, by simp only [Eval.nodeBody, hev], Sem.tab hE (sem_evalUn hE hG K hq.unit o c hsc), hc1, hf1⟩
  | bin o l r ihl ihr =>
    intro U ds ctx hq hfvd hc
    rw [Eval.evalNode_eq]
    refine cached_sound hC hE hKS hKW hq hfvd hc fun _ => ?_
    obtain ⟨lr, ctx1, hev1, hsl, hc1, hf1⟩ := ihl U ds ctx hq.left hfvd hc
    obtain ⟨rr, ctx2, hev2, hsr, hc2, hf2⟩ := ihr U ds ctx1 hq.right (hf1.trans hfvd) hc1
    exact ⟨true, _, ctx2, by simp only [Eval.nodeBody, hev1, hev2],
      Sem.tab hE (sem_evalBin hE hG K hq.unit o l r hsl hsr), hc2, hf2.trans hf1⟩
  | hyb op v dom c ih =>
    intro U ds ctx hq hfvd hc
    rw [Eval.evalNode_eq]
    refine cached_sound hC hE hKS hKW hq hfvd hc fun _ => ?_
    simp only [Eval.nodeBody]
    by_cases hpa : isAttractorPattern (.hyb op v dom c) = true
    · obtain ⟨x, hx⟩ := (C12.attractor_pattern_exact _).mp hpa
      have hw := hq.wscoped
      rw [hx] at hw
      refine ⟨true, _, ctx, by rw [if_pos hpa], ?_, hc, rfl⟩
      rw [hx]
      exact Sem.tab hE (C12.attractor_shortcut_correct hE hG hq.unit x hw.1 hw.2.1 K _ (attrSpec hE hG U))
    by_cases hpf : isFixedPointPattern (.hyb op v dom c) = true
    · -- the steady-state shortcut (not stored)
      obtain ⟨x, hx⟩ := (C12.fixedPoint_pattern_exact _).mp hpf
      have hw := hq.wscoped
      rw [hx] at hw
      refine ⟨false, _, ctx, by rw [if_neg hpa, if_pos hpf], ?_, hc, rfl⟩
      rw [hx]
      exact Sem.tab hE (C12.steady_shortcut_correct hE hG hA hq.unit x hw.1 hw.2.1 K)
    by_cases hj : op = .jump
    · subst hj
      have hw := hq.wscoped
      obtain ⟨cr, ctx1, hev, hsc, hc1, hf1⟩ := ih U ds ctx hq.jump hfvd hc
      have hk : ¬ (varId v ≥ E.G.k) := by have := hq.dk; have := hw.1; omega
      exact ⟨true, _, ctx1, by simp only [hpa, hpf, hev, hk, if_false, if_true, Bool.false_eq_true],
        Sem.tab hE (sem_jump hE hq.unit hsc (varId v)), hc1, hf1⟩
    have hw := hq.wscoped
    simp only [WellScoped, hj, if_false] at hw
    obtain ⟨hvd, hdk, -⟩ := hw
    have hvx : v = xs (ds.length + 1) := by have hn := hq.named; simp only [DepthNamed, hj, if_false] at hn; exact hn.1
    have hk : ¬ (varId v ≥ E.G.k) := by omega
    have hins : domInsert v dom ctx.fvd = fvdOf (ds ++ [dom]) := by
      rw [hfvd, hvx]; exact domInsert_fvdOf ds dom
    have hback : domRemove v (domInsert v dom ctx.fvd) = ctx.fvd := by
      rw [hins, hfvd, hvx]; exact domRemove_fvdOf ds dom
    cases dom with
    | none =>
      obtain ⟨cr, ctx1, hev, hsc, hc1, hf1⟩ :=
        ih U (ds ++ [none]) { ctx with fvd := domInsert v none ctx.fvd }
          (hq.body hj (fun l h => by cases h) hq.unit.weaken
            (unitDesc_snoc hq.desc fun _ _ => ⟨fun hu => ⟨hu, fun _ _ hd => by cases hd⟩, fun hu => hu.1⟩))
          hins (hc.fvd_irrel _)
      exact ⟨true, _, { ctx1 with fvd := domRemove v ctx1.fvd },
        by simp only [hpa, hpf, hj, hev, hk, if_false, Bool.false_eq_true],
        Sem.tab hE (sem_quantNoDom hE K hK hq.unit op hj v hvd hdk c hsc), hc1.fvd_irrel _,
        (congrArg (domRemove v) hf1).trans hback⟩
    | some l =>
      have hdi := hq.domsIn
      obtain ⟨⟨dsl, hl'⟩, -⟩ := hdi
      have hraw : ctx.domRaw.lookup l = some dsl := hc.domRaw l dsl hl'
      have hmem : ∀ q ∈ E.pts, ((E.tab (U.inter (E.tab (Ops.validDomain E U dsl (varId v))))) q = true ↔
          (U q = true ∧ dsl (q.setS (q.getV ds.length)) = true)) := by
        intro q hq'
        rw [hvd, ← mem_restrictedUnit hE hq.unit hq', hE.tab_ok _ q hq', hE.tab_ok _ q hq']
        simp only [CSet.inter, hE.tab_ok _ q hq']
      by_cases hemp : isEmptyOn E.pts (E.tab (U.inter (E.tab (Ops.validDomain E U dsl (varId v))))) = true
      · -- the empty-domain shortcut (not stored)
        refine ⟨false, _, { ctx with fvd := domRemove v (domInsert v (some l) ctx.fvd) }, ?_,
          sem_emptyDom hE K hK hq.unit op hj v l hl' hvd hdk c hmem (isEmptyOn_iff.mp hemp), hc.fvd_irrel _, ?_⟩
        · simp only [hpa, hpf, hj, if_false, Bool.false_eq_true, hraw, hk, hemp, if_true]
          cases op <;> first | rfl | exact absurd rfl hj
        · exact hback
      · obtain ⟨cr, ctx1, hev, hsc, hc1, hf1⟩ :=
          ih _ (ds ++ [some l]) { ctx with fvd := domInsert v (some l) ctx.fvd }
            (hq.body hj (fun l2 h => by cases h; exact ⟨dsl, hl'⟩)
              (hq.unit.restrict hE K hK hl' hmem) (unitDesc_snoc_some hl' hq.desc hmem))
            hins (hc.fvd_irrel _)
        exact ⟨true, _, { ctx1 with fvd := domRemove v ctx1.fvd },
          by simp only [hpa, hpf, hj, hraw, hk, hemp, hev, if_false, Bool.false_eq_true],
          Sem.tab hE (sem_quantDom hE K hK hq.unit op hj v l hl' hvd hdk c hmem hsc), hc1.fvd_irrel _,
          (congrArg (domRemove v) hf1).trans hback⟩

end
end Hctl
