/-
  Semantics of the set operators of Ops.lean, stated with `Sem a U φ`:
  on the universe, `a` holds exactly at the points of the unit `U` where `φ` holds.
-/
import HctlProofs.Lemmas.Points
import HctlProofs.Lemmas.Fixpoint
namespace Hctl

theorem Sem.sub {E : Env} {a U : CSet} {φ} (h : Sem E a U φ) : SubOn E.pts a U :=
  fun p hp ha => ((h p hp).mp ha).1

theorem Sem.tab {E : Env} (hE : EnvOK E) {a U : CSet} {φ} (h : Sem E a U φ) : Sem E (E.tab a) U φ :=
  fun p hp => by rw [hE.tab_ok a p hp]; exact h p hp

theorem Sem.iff {E : Env} {a U : CSet} {φ ψ : Point → Prop} (h : Sem E a U φ)
    (hφ : ∀ p ∈ E.pts, U p = true → (φ p ↔ ψ p)) : Sem E a U ψ :=
  fun p hp => (h p hp).trans (and_congr_right (hφ p hp))

theorem Sem.eq_at {E E' : Env} {a U b U' : CSet} {φ ψ : Point → Prop} (ha : Sem E a U φ) (hb : Sem E' b U' ψ)
    {p p' : Point} (hp : p ∈ E.pts) (hp' : p' ∈ E'.pts) (hU : U p = U' p') (h : U p = true → (φ p ↔ ψ p')) :
    a p = b p' := by
  apply Bool.eq_iff_iff.mpr
  rw [ha p hp, hb p' hp', ← hU]
  exact and_congr_right h

theorem Sem.eqOn_of_iff {E : Env} {a b U : CSet} {φ ψ : Point → Prop} (ha : Sem E a U φ) (hb : Sem E b U ψ)
    (h : ∀ p ∈ E.pts, U p = true → (φ p ↔ ψ p)) : EqOn E.pts a b :=
  fun p hp => ha.eq_at hb hp hp rfl (h p hp)

theorem Sem.eqOn {E : Env} {a b U : CSet} {φ : Point → Prop} (ha : Sem E a U φ) (hb : Sem E b U φ) : EqOn E.pts a b :=
  ha.eqOn_of_iff hb fun _ _ _ => Iff.rfl

theorem Sem.subOn {E : Env} {a b U : CSet} {φ ψ : Point → Prop} (ha : Sem E a U φ) (hb : Sem E b U ψ)
    (h : ∀ p ∈ E.pts, U p = true → φ p → ψ p) : SubOn E.pts a b :=
  fun p hp hap => let ⟨hu, hφ⟩ := (ha p hp).mp hap; (hb p hp).mpr ⟨hu, h p hp hu hφ⟩

theorem sem_self {E : Env} {U a : CSet} (h : SubOn E.pts a U) : Sem E a U (fun p => a p = true) :=
  fun p hp => ⟨fun ha => ⟨h p hp ha, ha⟩, fun ha => ha.2⟩

theorem Sem.restrict {E : Env} {a U1 U2 : CSet} {φ : Point → Prop} (h : Sem E a U1 φ)
    (hU : ∀ p ∈ E.pts, U2 p = true → U1 p = true) : Sem E (a.inter U2) U2 φ := by
  intro p hp
  simp only [CSet.inter, Bool.and_eq_true]
  rw [h p hp]
  constructor
  · rintro ⟨⟨_, h⟩, h2⟩
    exact ⟨h2, h⟩
  · rintro ⟨h2, h⟩
    exact ⟨⟨hU p hp h2, h⟩, h2⟩

section bool
variable {E : Env} {U a b : CSet} {φ ψ : Point → Prop}

theorem sem_unit : Sem E U U (fun _ => True) := fun p _ => by simp
theorem sem_empty : Sem E CSet.empty U (fun _ => False) := fun p _ => by simp [CSet.empty]

theorem sem_neg (ha : Sem E a U φ) : Sem E (Ops.evalNeg U a) U (fun p => ¬ φ p) := by
  intro p hp
  rw [show Ops.evalNeg U a = U.minus a from rfl, CSet.mem_minus, ← Bool.not_eq_true, ha p hp]
  exact ⟨fun ⟨hu, hn⟩ => ⟨hu, fun h => hn ⟨hu, h⟩⟩, fun ⟨hu, hn⟩ => ⟨hu, fun h => hn h.2⟩⟩

theorem sem_and (ha : Sem E a U φ) (hb : Sem E b U ψ) : Sem E (a.inter b) U (fun p => φ p ∧ ψ p) := by
  intro p hp
  rw [CSet.mem_inter, ha p hp, hb p hp]
  exact ⟨fun ⟨⟨hu, h1⟩, _, h2⟩ => ⟨hu, h1, h2⟩, fun ⟨hu, h1, h2⟩ => ⟨⟨hu, h1⟩, hu, h2⟩⟩

theorem sem_or (ha : Sem E a U φ) (hb : Sem E b U ψ) : Sem E (a.union b) U (fun p => φ p ∨ ψ p) := by
  intro p hp
  rw [CSet.mem_union, ha p hp, hb p hp]
  exact and_or_left.symm

/-- `¬a ∪ b` -/
theorem sem_imp (ha : Sem E a U φ) (hb : Sem E b U ψ) : Sem E (Ops.evalImp U a b) U (fun p => φ p → ψ p) :=
  (sem_or (sem_neg ha) hb).iff fun _ _ _ => by classical exact Decidable.imp_iff_not_or.symm

/-- `(a ∩ b) ∪ (¬a ∩ ¬b)` -/
theorem sem_equiv (ha : Sem E a U φ) (hb : Sem E b U ψ) :
    Sem E (Ops.evalEquiv U a b) U (fun p => (φ p ↔ ψ p)) :=
  (sem_or (sem_and ha hb) (sem_and (sem_neg ha) (sem_neg hb))).iff fun _ _ _ => by
    classical exact Decidable.iff_iff_and_or_not_and_not.symm

theorem sem_xor (ha : Sem E a U φ) (hb : Sem E b U ψ) :
    Sem E (Ops.evalXor U a b) U (fun p => ¬ (φ p ↔ ψ p)) :=
  sem_neg (sem_equiv ha hb)

end bool

theorem mem_steadyOf {E : Env} {U0 : CSet} {p : Point} :
    Ops.steadyOf E U0 p = true ↔ U0 p = true ∧ E.G.isSteady p.c p.s := by
  simp only [Ops.steadyOf, Bool.and_eq_true, List.all_eq_true, List.mem_range, Graph.isSteady, Option.isNone_iff_eq_none]

theorem mem_varPre {E : Env} {a : CSet} {j : Nat} {p : Point} :
    Ops.varPre E j a p = true ↔ ∃ t, E.G.step p.c j p.s = some t ∧ a (p.setS t) = true := by
  simp only [Ops.varPre]
  cases E.G.step p.c j p.s <;> simp

theorem mem_pre {E : Env} {a : CSet} {p : Point} :
    Ops.pre E a p = true ↔ ∃ t, E.G.stepRel p.c p.s t ∧ a (p.setS t) = true := by
  simp only [Ops.pre, any_range_iff, mem_varPre, Graph.stepRel]
  exact ⟨fun ⟨j, hj, t, hs, h⟩ => ⟨t, ⟨j, hj, hs⟩, h⟩, fun ⟨t, ⟨j, hj, hs⟩, h⟩ => ⟨j, hj, t, hs, h⟩⟩

section step
variable {E : Env} (hE : EnvOK E) (hG : GraphWF E.G)
include hE hG

omit hE in
theorem R_lt_nS {c s t : Nat} (hs : s < E.G.nS) (hR : E.G.R c s t) : t < E.G.nS := by
  cases hR with
  | inl h => obtain ⟨j, _, hj⟩ := h; exact hG.step_lt _ _ _ _ hj hs
  | inr h => rw [h.2]; exact hs

theorem R_lt {p : Point} (hp : p ∈ E.pts) {t : Nat} (hR : E.G.R p.c p.s t) : t < E.G.nS :=
  R_lt_nS hG (hE.s_lt hp) hR

theorem mem_steady {U0 : CSet} {p : Point} :
    Ops.steadyOf E U0 p = true ↔ U0 p = true ∧ E.G.isSteady p.c p.s :=
  mem_steadyOf

omit hE hG in
/-- `eval_ex` = one step of the relation with self-loops, for sets inside the unit -/
theorem mem_evalEx {U0 st a : CSet} (hst : SteadyOK E U0 st)
    (ha0 : ∀ p ∈ E.pts, a p = true → U0 p = true) {p : Point} (hp : p ∈ E.pts) :
    Ops.evalEx E a st p = true ↔ ∃ t, E.G.R p.c p.s t ∧ a (p.setS t) = true := by
  simp only [Ops.evalEx, CSet.union, CSet.inter, Bool.or_eq_true, Bool.and_eq_true]
  rw [mem_pre, hst p hp]
  constructor
  · rintro (⟨t, hs, ht⟩ | ⟨hap, _, hst⟩)
    · exact ⟨t, Or.inl hs, ht⟩
    · exact ⟨p.s, Or.inr ⟨hst, rfl⟩, by simpa using hap⟩
  · rintro ⟨t, (hs | ⟨hst, rfl⟩), ht⟩
    · exact Or.inl ⟨t, hs, ht⟩
    · exact Or.inr ⟨by simpa using ht, ha0 p hp (by simpa using ht), hst⟩

theorem sem_ex {U0 st U a : CSet} {d : Nat} {φ : Point → Prop} (hU : UnitOK E U0 st U d) (ha : Sem E a U φ) :
    Sem E (Ops.evalEx E a st) U (fun p => ∃ t, E.G.R p.c p.s t ∧ φ (p.setS t)) := by
  intro p hp
  rw [mem_evalEx hU.steady (fun q hq h => hU.sub0 q hq (ha.sub q hq h)) hp]
  constructor
  · rintro ⟨t, hR, hat⟩
    have hq := hE.setS_mem hp (R_lt hE hG hp hR)
    have := (ha _ hq).mp hat
    exact ⟨by rw [← hU.stateIndep p hp t (R_lt hE hG hp hR)]; exact this.1, t, hR, this.2⟩
  · rintro ⟨hu, t, hR, hφ⟩
    have hq := hE.setS_mem hp (R_lt hE hG hp hR)
    exact ⟨t, hR, (ha _ hq).mpr ⟨by rw [hU.stateIndep p hp t (R_lt hE hG hp hR)]; exact hu, hφ⟩⟩

theorem sem_ax {U0 st U a : CSet} {d : Nat} {φ : Point → Prop} (hU : UnitOK E U0 st U d) (ha : Sem E a U φ) :
    Sem E (Ops.evalAx E U a st) U (fun p => ∀ t, E.G.R p.c p.s t → φ (p.setS t)) := by
  have h := sem_neg (sem_ex hE hG hU (sem_neg ha))
  exact h.iff fun p _ _ => by simp only [not_exists, not_and, Classical.not_not]

theorem mem_evalAx {U0 st U y : CSet} {d : Nat} (hU : UnitOK E U0 st U d) (hy : SubOn E.pts y U)
    {q : Point} (hq : q ∈ E.pts) :
    Ops.evalAx E U y st q = true ↔
      (U q = true ∧ ∀ t, E.G.R q.c q.s t → y (q.setS t) = true) :=
  sem_ax hE hG hU (sem_self hy) q hq

end step

end Hctl
