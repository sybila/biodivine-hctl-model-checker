/-
  C09, for all trees: an injective renaming of the variable names does not change the canonical form, and canonisation
  is idempotent.
-/
import HctlProofs.Lemmas.VarRename
namespace Hctl
open C09

theorem canonTreeAux_keys (t : Tree) (st : CanonT) (x c : Name) (h : (x, c) ∈ (canonTreeAux t st).2.map) :
    (∃ c', (x, c') ∈ st.map) ∨ x ∈ varNames t := by
  refine canonTreeAux_bind (fun s => ∀ c, (x, c) ∈ s.map → (∃ c', (x, c') ∈ st.map) ∨ x ∈ varNames t) t st ?_
    (fun c h => Or.inl ⟨c, h⟩) c h
  intro v hv s hs c hc
  rcases mem_mapInsert.mp hc with ⟨rfl, _⟩ | ⟨_, hc⟩
  · exact Or.inr hv
  · exact hs c hc

theorem canonTreeAux_keys_of {P : Name → Prop} (t : Tree) (st : CanonT) (hm : ∀ e ∈ st.map, P e.1)
    (hx : ∀ x ∈ varNames t, P x) : ∀ e ∈ (canonTreeAux t st).2.map, P e.1 := by
  intro e he
  rcases canonTreeAux_keys t st e.1 e.2 he with ⟨c', h⟩ | h
  · exact hm (e.1, c') h
  · exact hx _ h

section mapkeys
variable (f : Name → Name) (P : Name → Prop) (hinj : ∀ x y, P x → P y → f x = f y → x = y)
include hinj

theorem lookup_mapKeys (m : List (Name × Name)) (hm : ∀ e ∈ m, P e.1) (x : Name) (hx : P x) :
    (mapKeys f m).lookup (f x) = m.lookup x := by
  induction m with
  | nil => rfl
  | cons e m ih =>
    have hk : f x = f e.1 ↔ x = e.1 := ⟨hinj x e.1 hx (hm e (by simp)), congrArg f⟩
    rw [mapKeys, List.map_cons, lookup_cons_eq, ← mapKeys, ih (fun e he => hm e (by simp [he])), lookup_cons_eq]
    simp only [hk]

theorem mapInsert_mapKeys (m : List (Name × Name)) (hm : ∀ e ∈ m, P e.1) (v c : Name) (hv : P v) :
    mapKeys f (mapInsert v c m) = mapInsert (f v) c (mapKeys f m) := by
  rw [mapInsert, mapInsert, mapKeys, mapKeys, List.map_cons, List.filter_map]
  congr 2
  refine List.filter_congr fun e he => ?_
  have : f e.1 = f v ↔ e.1 = v := ⟨hinj e.1 v (hm e he) hv, congrArg f⟩
  show (e.1 != v) = (f e.1 != f v)
  rw [Bool.eq_iff_iff, bne_iff_ne, bne_iff_ne, Ne, Ne, this]

theorem canonVar_mapKeys (v : Name) (st : CanonT) (hm : ∀ e ∈ st.map, P e.1) (hv : P v) :
    canonVar (f v) ⟨mapKeys f st.map, st.stack⟩ =
      ((canonVar v st).1, ⟨mapKeys f (canonVar v st).2.map, (canonVar v st).2.stack⟩) := by
  have hl := lookup_mapKeys f P hinj st.map hm v hv
  cases h : st.map.lookup v with
  | some cn => rw [canonVar_of_some h, canonVar_of_some (hl.trans h)]
  | none => rw [canonVar_of_none h, canonVar_of_none (hl.trans h), mapInsert_mapKeys f P hinj st.map hm v _ hv]

/-- `f` need only be injective on a set `P` that holds the names of `t` and the keys of the state -/
theorem canonTreeAux_mapKeys : ∀ (t : Tree) (st : CanonT), (∀ e ∈ st.map, P e.1) → (∀ x ∈ varNames t, P x) →
    canonTreeAux (t.mapVars f) ⟨mapKeys f st.map, st.stack⟩ =
      ((canonTreeAux t st).1, ⟨mapKeys f (canonTreeAux t st).2.map, (canonTreeAux t st).2.stack⟩) ∧
    (∀ e ∈ (canonTreeAux t st).2.map, P e.1) := by
  intro t st hm hx
  -- the keys stay in `P` (`canonTreeAux_keys_of`), so the induction is about the equation alone
  refine ⟨?_, canonTreeAux_keys_of t st hm hx⟩
  induction t generalizing st with
  | atom a =>
    cases a with
    | var x => simp only [Tree.mapVars, canonTreeAux_var, canonVar_mapKeys f P hinj x st hm (hx x (by simp [varNames]))]
    | _ => rfl
  | un o c ih => simp only [Tree.mapVars, canonTreeAux_un, ih st hm hx]
  | bin o l r ihl ihr =>
    simp only [varNames, List.mem_append] at hx
    have hl := fun x h => hx x (Or.inl h)
    simp only [Tree.mapVars, canonTreeAux_bin, ihl st hm hl,
      ihr _ (canonTreeAux_keys_of l st hm hl) (fun x h => hx x (Or.inr h))]
  | hyb o v d c ih =>
    simp only [varNames, List.mem_cons] at hx
    have hv : P v := hx v (Or.inl rfl)
    have hc := fun x h => hx x (Or.inr h)
    by_cases hj : o = .jump
    · have hk : ∀ e ∈ (canonVar v st).2.map, P e.1 :=
        canonTreeAux_keys_of (.atom (.var v)) st hm (by simpa [varNames] using hv)
      simp only [Tree.mapVars, canonTreeAux_hyb, hybVar, hj, if_true, canonVar_mapKeys f P hinj v st hm hv,
        ih (canonVar v st).2 hk hc]
    · have hm' : ∀ e ∈ mapInsert v (canonName st.stack) st.map, P e.1 := fun e he =>
        (mem_mapInsert.mp he).elim (fun h => by rw [h.1]; exact hv) (fun h => hm e h.2)
      have := ih ⟨mapInsert v (canonName st.stack) st.map, st.stack + 1⟩ hm' hc
      rw [mapInsert_mapKeys f P hinj st.map hm v _ hv] at this
      simp only [Tree.mapVars, canonTreeAux_hyb, hybVar, hj, if_false, this]

end mapkeys

theorem mapKeys_nil (f : Name → Name) : mapKeys f [] = [] := rfl

/-- C09, completeness: an injective renaming of the variable names does not change the canonical form, and renames the
keys of the renaming map -/
theorem canon_invariant_under_renaming (f : Name → Name) (t : Tree)
    (hinj : ∀ x y, x ∈ varNames t → y ∈ varNames t → f x = f y → x = y) :
    (canonTree (t.mapVars f)).1 = (canonTree t).1 ∧ (canonTree (t.mapVars f)).2 = mapKeys f (canonTree t).2 := by
  have : canonTreeAux (t.mapVars f) {} = _ :=
    (canonTreeAux_mapKeys f (fun x => x ∈ varNames t) hinj t {} (by simp) (fun x hx => hx)).1
  simp only [canonTree]
  rw [this]
  exact ⟨rfl, rfl⟩

/-- the state while `t` is canonised, and the state while its canonical form is -/
structure IdemInv (st st2 : CanonT) : Prop where
  stack : st2.stack = st.stack
  fwd : ∀ x c, (x, c) ∈ st.map → st2.map.lookup c = some c
  diag : ∀ k v, (k, v) ∈ st2.map → k = v ∧ ∃ j, j < st.stack ∧ k = canonName j

theorem IdemInv.insert {st st2 : CanonT} (h : IdemInv st st2) (hst : CanonInv st) (v : Name) :
    IdemInv ⟨mapInsert v (canonName st.stack) st.map, st.stack + 1⟩
      ⟨mapInsert (canonName st2.stack) (canonName st2.stack) st2.map, st2.stack + 1⟩ := by
  rw [h.stack]
  refine ⟨rfl, ?_, ?_⟩
  · intro x c hm
    rcases mem_mapInsert.mp hm with ⟨_, rfl⟩ | ⟨_, hm'⟩
    · rw [lookup_mapInsert, if_pos rfl]
    · rw [lookup_mapInsert, if_neg (hst.ne_fresh hm')]
      exact h.fwd x _ hm'
  · intro k v' hm
    rcases mem_mapInsert.mp hm with ⟨rfl, rfl⟩ | ⟨_, hm'⟩
    · exact ⟨rfl, st.stack, by simp, rfl⟩
    · obtain ⟨h1, j, hj, h2⟩ := h.diag k v' hm'
      exact ⟨h1, j, by simp; omega, h2⟩

theorem canonVar_idem {st st2 : CanonT} (h : IdemInv st st2) (hst : CanonInv st) (v : Name) :
    (canonVar (canonVar v st).1 st2).1 = (canonVar v st).1 ∧ IdemInv (canonVar v st).2 (canonVar (canonVar v st).1 st2).2 := by
  cases hl : st.map.lookup v with
  | some cn =>
    rw [canonVar_of_some hl, canonVar_of_some (h.fwd v cn (mem_of_lookup hl))]
    exact ⟨rfl, h⟩
  | none =>
    have hnew : st2.map.lookup (canonName st.stack) = none := by
      refine Option.eq_none_iff_forall_ne_some.mpr fun c hl2 => ?_
      obtain ⟨_, j, hj, hk⟩ := h.diag _ c (mem_of_lookup hl2)
      exact Nat.ne_of_lt hj (canonName_inj hk).symm
    rw [canonVar_of_none hl, canonVar_of_none hnew, h.stack]
    have := h.insert hst v
    rw [h.stack] at this
    exact ⟨rfl, this⟩

theorem canonTreeAux_idem : ∀ (t : Tree) (st st2 : CanonT), CanonInv st → IdemInv st st2 →
    (canonTreeAux (canonTreeAux t st).1 st2).1 = (canonTreeAux t st).1 ∧
    IdemInv (canonTreeAux t st).2 (canonTreeAux (canonTreeAux t st).1 st2).2 := by
  intro t
  induction t with
  | atom a =>
    intro st st2 hst h
    cases a with
    | var v =>
      have := canonVar_idem h hst v
      exact ⟨congrArg (fun x => Tree.atom (.var x)) this.1, this.2⟩
    | _ => exact ⟨rfl, h⟩
  | un o c ih =>
    intro st st2 hst h
    have := ih st st2 hst h
    exact ⟨congrArg (Tree.un o) this.1, this.2⟩
  | bin o l r ihl ihr =>
    intro st st2 hst h
    have a := ihl st st2 hst h
    have b := ihr _ _ (canonTreeAux_inv l st hst) a.2
    rw [canonTreeAux_bin, canonTreeAux_bin]
    exact ⟨by rw [a.1, b.1], b.2⟩
  | hyb o v d c ih =>
    intro st st2 hst h
    by_cases hj : o = .jump
    · subst hj
      have a := canonVar_idem h hst v
      have b := ih _ _ (canonVar_inv hst v) a.2
      simp only [canonTreeAux_hyb, hybVar, if_true]
      exact ⟨by rw [a.1, b.1], b.2⟩
    · have hi := h.insert hst v
      have b := ih _ _ (hst.insert v) hi
      simp only [canonTreeAux_hyb, hybVar, hj, if_false]
      rw [h.stack] at b ⊢
      exact ⟨by rw [b.1], b.2⟩

/-- C09: canonisation is idempotent -/
theorem canonTree_idempotent (t : Tree) : (canonTree (canonTree t).1).1 = (canonTree t).1 := by
  have := canonTreeAux_idem t {} {} CanonInv.init ⟨rfl, fun _ _ h => by simp at h, fun _ _ h => by simp at h⟩
  simpa [canonTree] using this.1

end Hctl
