/-
  The string entry points end to end (tokenizer, parser, preprocessing, support check, context lookup,
  `mark_duplicates`, cached evaluation): the outcome is the parse/validation error or the exact satisfaction sets, never
  a panic.  Both entry points are instances of `batchDirty`.
-/
import HctlProofs.Props.C14
namespace Hctl

/-- `model_check_multiple_formulae_dirty` (`ext = false`, no context) and
`model_check_multiple_extended_formulae_dirty` (`ext = true`) in one -/
def batchDirty (E : Env) (K : CharClass) (ext : Bool) (U : CSet) (ctxSets : List (Name × CSet))
    (fs : List (List Char)) : Outcome (List CSet) :=
  match Api.parseAll E K ext ctxSets fs with
  | .error e => .userError e
  | .ok (trees, props, doms) =>
    match Api.evalAll E (Ops.steadyOf E U) U trees
      (({ dups := markDups trees } : ECtx).extendWithWildCards (Api.dedupNames props) (Api.dedupNames doms)) with
    | .error (.panic s) => .panic s
    | .ok rs => .ok rs

theorem extendedDirty_eq_batch (E : Env) (K : CharClass) (U : CSet) (ctxSets : List (Name × CSet))
    (fs : List (List Char)) : Api.extendedDirty E K U ctxSets fs = batchDirty E K true U ctxSets fs := rfl

theorem formulaeDirty_eq_batch (E : Env) (K : CharClass) (U : CSet) (fs : List (List Char)) :
    Api.formulaeDirty E K U fs = batchDirty E K false U [] fs := by
  unfold Api.formulaeDirty batchDirty
  cases hp : Api.parseAll E K false [] fs with
  | error e => rfl
  | ok r =>
    obtain ⟨trees, ps, ds⟩ := r
    obtain ⟨rfl, rfl⟩ := parseAll_false_nil E K hp
    rfl

theorem batchDirty_ok_parse {E : Env} {K : CharClass} {ext : Bool} {U : CSet} {ctxSets : List (Name × CSet)}
    {fs : List (List Char)} {rs : List CSet} (h : batchDirty E K ext U ctxSets fs = .ok rs) :
    ∃ trees ps ds, Api.parseAll E K ext ctxSets fs = .ok (trees, ps, ds) := by
  unfold batchDirty at h
  cases hp : Api.parseAll E K ext ctxSets fs with
  | error e => rw [hp] at h; cases h
  | ok r => exact ⟨r.1, r.2.1, r.2.2, rfl⟩

section
variable {C : CharClass} (hC : Lex.CharsOK C) {E : Env} (hE : EnvOK E) (hG : GraphWF E.G) (hA : C12.GraphAsync E.G)

theorem parseOne_wellScoped (K : CharClass) (ext : Bool) (cs : List Char) (t : Tree)
    (h : Api.parseOne E K ext cs = .ok t) : WellScoped E.G.k 0 t := by
  obtain ⟨_, t0, _, _, hr, hk⟩ := (parseOne_ok_iff E K ext cs t).mp h
  exact C07.rename_wellScoped _ t0 t hr _ hk

include hC hE hG hA

theorem evalAll_of_parseAll (ext : Bool) (ctxSets : List (Name × CSet)) (hctx : ∀ e ∈ ctxSets, SetSC e.2)
    {fs : List (List Char)} {trees : List Tree} {ps ds : List (Name × CSet)}
    (hp : Api.parseAll E C ext ctxSets fs = .ok (trees, ps, ds)) :
    ∃ rs, Api.evalAll E (Ops.steadyOf E E.G.unit0) E.G.unit0 trees
        (({ dups := markDups trees } : ECtx).extendWithWildCards (Api.dedupNames ps) (Api.dedupNames ds)) = .ok rs ∧
      rs.length = trees.length ∧
      ∀ i (hi : i < trees.length) (hi' : i < rs.length), ∀ p ∈ E.pts,
        (rs[i] p = true ↔ (E.G.unit0 p = true ∧
          sat E.G (C04.ctxOf (Api.dedupNames ps) (Api.dedupNames ds)) trees[i] p)) := by
  obtain ⟨i1, i2, i3⟩ := parseAll_spec E C hC.charOK ext ctxSets fs trees ps ds hp
  -- an entry of the collected context is an entry of the supplied one
  have hsub : ∀ (l : List (Name × CSet)), (∀ e ∈ l, ctxSets.lookup e.1 = some e.2) → ∀ n a,
      (Api.dedupNames l).lookup n = some a → (n, a) ∈ l ∧ (n, a) ∈ ctxSets := by
    intro l hl n a h
    rw [C04.lookup_dedupNames] at h
    have := mem_of_lookup h
    exact ⟨this, mem_of_lookup (hl _ this)⟩
  have hSC : CtxSC (C04.ctxOf (Api.dedupNames ps) (Api.dedupNames ds)) :=
    ⟨fun w a h => hctx _ (hsub ps (fun e he => (i2 e he).1) w a h).2,
     fun l a h => hctx _ (hsub ds i3 l a h).2⟩
  have hK := hSC.ctxOK E
  have hq : ∀ t ∈ trees, GoodQ C E (C04.ctxOf (Api.dedupNames ps) (Api.dedupNames ds)) E.G.unit0 t E.G.unit0 [] := by
    intro t ht
    obtain ⟨⟨cs, hcs⟩, hw, hd⟩ := i1 t ht
    have hsome : ∀ (l : List (Name × CSet)) n, n ∈ l.map Prod.fst → ∃ a, (Api.dedupNames l).lookup n = some a :=
      fun l n hn => by rw [C04.lookup_dedupNames]; exact Option.isSome_iff_exists.mp (lookup_isSome_iff_mem_keys.mpr hn)
    obtain ⟨toks, t0, hl, hp, hr, hk⟩ := (parseOne_ok_iff E C ext cs t).mp hcs
    exact C14.rename_goodQ C hC E _ t0 t hr hk (parsed_treeOK hC ext cs toks t0 hl hp)
      ((domsIn_iff _ t).mpr fun d hdd => hsome ds d (hd d hdd)) ((wildsIn_iff _ t).mpr fun w hww => hsome ps w (hw w hww))
  have hpv : ∀ e ∈ Api.dedupNames ps, Lex.ValidId C e.1 := by
    intro e he
    have := lookup_of_mem_nodup (C04.dedupNames_nodup ps) he
    obtain ⟨_, t, ht, hwl⟩ := i2 _ (hsub ps (fun e he => (i2 e he).1) _ _ this).1
    exact wildLabels_valid t (hq t ht).valid.1 e.1 hwl
  exact C04.extendedDirty_sound hC hE hG hA E.G.unit0 trees ps ds hK hSC
    (C04.unit0_slotIndep E) hpv hq

theorem batchDirty_correct (ext : Bool) (ctxSets : List (Name × CSet)) (hctx : ∀ e ∈ ctxSets, SetSC e.2)
    (fs : List (List Char)) :
    (∃ e, Api.parseAll E C ext ctxSets fs = .error e ∧ batchDirty E C ext E.G.unit0 ctxSets fs = .userError e) ∨
    (∃ trees ps ds rs, Api.parseAll E C ext ctxSets fs = .ok (trees, ps, ds) ∧
      batchDirty E C ext E.G.unit0 ctxSets fs = .ok rs ∧ rs.length = trees.length ∧
      ∀ i (hi : i < trees.length) (hi' : i < rs.length), ∀ p ∈ E.pts,
        (rs[i] p = true ↔ (E.G.unit0 p = true ∧
          sat E.G (C04.ctxOf (Api.dedupNames ps) (Api.dedupNames ds)) trees[i] p))) := by
  cases hp : Api.parseAll E C ext ctxSets fs with
  | error e => left; exact ⟨e, rfl, by simp [batchDirty, hp]⟩
  | ok r =>
    obtain ⟨trees, ps, ds⟩ := r
    obtain ⟨rs, hev, hlen, hall⟩ := evalAll_of_parseAll hC hE hG hA ext ctxSets hctx hp
    exact Or.inr ⟨trees, ps, ds, rs, rfl, by simp [batchDirty, hp, hev], hlen, hall⟩

/-- (C02, C03, C10, C14) `model_check_multiple_extended_formulae_dirty`, any strings, any context of variable-independent sets: the
parse/validation error (including a label without a context set) or exactly the satisfaction sets in the context. -/
theorem extendedDirty_correct (ctxSets : List (Name × CSet)) (hctx : ∀ e ∈ ctxSets, SetSC e.2) (fs : List (List Char)) :
    (∃ e, Api.parseAll E C true ctxSets fs = .error e ∧ Api.extendedDirty E C E.G.unit0 ctxSets fs = .userError e) ∨
    (∃ trees ps ds rs, Api.parseAll E C true ctxSets fs = .ok (trees, ps, ds) ∧
      Api.extendedDirty E C E.G.unit0 ctxSets fs = .ok rs ∧ rs.length = trees.length ∧
      ∀ i (hi : i < trees.length) (hi' : i < rs.length), ∀ p ∈ E.pts,
        (rs[i] p = true ↔ (E.G.unit0 p = true ∧
          sat E.G (C04.ctxOf (Api.dedupNames ps) (Api.dedupNames ds)) trees[i] p))) :=
  batchDirty_correct hC hE hG hA true ctxSets hctx fs

/-- (C01, C03, C14) `model_check_multiple_formulae_dirty`, any strings: the parse/validation error or exactly the satisfaction sets. -/
theorem formulaeDirty_correct (fs : List (List Char)) :
    (∃ e, Api.parseAll E C false [] fs = .error e ∧ Api.formulaeDirty E C E.G.unit0 fs = .userError e) ∨
    (∃ trees ps ds rs, Api.parseAll E C false [] fs = .ok (trees, ps, ds) ∧
      Api.formulaeDirty E C E.G.unit0 fs = .ok rs ∧ rs.length = trees.length ∧
      ∀ i (hi : i < trees.length) (hi' : i < rs.length), ∀ p ∈ E.pts,
        (rs[i] p = true ↔ (E.G.unit0 p = true ∧ sat E.G noCtx trees[i] p))) := by
  rw [formulaeDirty_eq_batch]
  rcases batchDirty_correct hC hE hG hA false [] (by simp) fs with h | ⟨trees, ps, ds, rs, hp, h⟩
  · exact Or.inl h
  · obtain ⟨rfl, rfl⟩ := parseAll_false_nil E C hp
    exact Or.inr ⟨trees, [], [], rs, hp, h⟩

end

/-- the graph of the non-vacuity example -/
def Gt : Graph :=
  { nS := 2, nC := 1, nV := 1, k := 0, valid := fun _ => true
    step := fun _ _ s => some (1 - s)
    label := fun n => if n = ['a'] then some (fun s => s == 1) else none }

theorem Gt_wf : GraphWF Gt := ⟨fun c j s t h hs => by simp [Gt] at h hs ⊢; omega⟩
theorem Gt_async : C12.GraphAsync Gt := ⟨fun c j s t h => by simp [Gt] at h; omega⟩

/-- the premises of `formulaeDirty_correct` hold for the toggle; `EF a` gets a result -/
example : ∃ rs, Api.formulaeDirty (Env.pure Gt) C06.asciiClass (Env.pure Gt).G.unit0 [['E','F',' ','a']] = .ok rs := by
  rcases formulaeDirty_correct C06.asciiClass_ok (envOK_pure Gt) Gt_wf Gt_async [['E','F',' ','a']] with ⟨e, he, _⟩ | ⟨trees, ps, ds, rs, _, h, _⟩
  · exfalso
    have hp : Api.parseAll (Env.pure Gt) C06.asciiClass false [] [['E','F',' ','a']]
        = .ok ([.un .ef (.atom (.prop ['a']))], [], []) := by rfl
    rw [hp] at he
    cases he
  · exact ⟨rs, h⟩
end Hctl
