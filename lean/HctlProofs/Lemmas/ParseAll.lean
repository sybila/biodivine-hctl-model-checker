/-
  What `Api.parseAll` returns: the members' `parseOne` results and `Cli.collectCtx` of those trees, i.e. the supplied
  context looked up at their labels (`parseAll_ok_iff`, `parseAll_spec`).  Errors go through `parseAll_cons`.
-/
import HctlProofs.Lemmas.LexPlain
import HctlProofs.Lemmas.RenameSpec
import HctlModel.Cli
namespace Hctl

theorem mem_insertUniq (n x : Name) (l : List Name) : x ∈ insertUniq n l ↔ x = n ∨ x ∈ l := by
  unfold insertUniq
  by_cases h : l.contains n = true
  · simp only [h, if_true]
    constructor
    · exact Or.inr
    · rintro (rfl | h'); exact (by simpa using h); exact h'
  · simp only [h, if_false, Bool.false_eq_true, List.mem_append, List.mem_singleton]
    exact Or.comm

/-- `collect_unique_wild_cards` collects the labels that occur -/
theorem mem_wildCards : ∀ (t : Tree) (acc : List Name × List Name),
    (∀ x, x ∈ (t.wildCards acc).1 ↔ x ∈ acc.1 ∨ x ∈ wildLabels t) ∧
    (∀ x, x ∈ (t.wildCards acc).2 ↔ x ∈ acc.2 ∨ x ∈ domLabels t) := by
  intro t
  induction t with
  | atom a =>
    intro acc
    cases a with
    | wild w =>
      simp only [Tree.wildCards, wildLabels, domLabels, List.mem_singleton, List.not_mem_nil, or_false]
      exact ⟨fun x => by rw [mem_insertUniq]; exact Or.comm, fun _ => trivial⟩
    | _ => simp [Tree.wildCards, wildLabels, domLabels]
  | un o c ih => intro acc; simpa [Tree.wildCards, wildLabels, domLabels] using ih acc
  | bin o l r ihl ihr =>
    intro acc
    have a := ihl acc
    have b := ihr (l.wildCards acc)
    simp only [Tree.wildCards, wildLabels, domLabels, List.mem_append]
    exact ⟨fun x => by rw [b.1, a.1, or_assoc], fun x => by rw [b.2, a.2, or_assoc]⟩
  | hyb o v d c ih =>
    intro acc
    obtain ⟨ps, ds⟩ := acc
    cases d with
    | none => simpa [Tree.wildCards, wildLabels, domLabels] using ih (ps, ds)
    | some l =>
      have := ih (ps, insertUniq l ds)
      simp only [Tree.wildCards, wildLabels, domLabels, List.mem_cons]
      refine ⟨this.1, fun x => ?_⟩
      rw [this.2, mem_insertUniq, or_assoc, or_left_comm]

theorem wildCards_plain : ∀ (t : Tree) (acc : List Name × List Name), Plain t → t.wildCards acc = acc := by
  intro t
  induction t with
  | atom a => intro acc h; cases a <;> simp_all [Tree.wildCards, Plain]
  | un o c ih => intro acc h; simpa [Tree.wildCards] using ih acc h
  | bin o l r ihl ihr =>
    intro acc h
    simp only [Tree.wildCards, ihl acc h.1, ihr acc h.2]
  | hyb o x d c ih =>
    intro acc h
    obtain ⟨h1, h2⟩ := h
    subst h1
    simp only [Tree.wildCards, ih acc h2]

theorem plain_labels (t : Tree) (h : Plain t) : wildLabels t = [] ∧ domLabels t = [] := by
  have hm := mem_wildCards t ([], [])
  rw [wildCards_plain t _ h] at hm
  exact ⟨List.eq_nil_iff_forall_not_mem.mpr fun x hx => by simpa using (hm.1 x).mpr (Or.inr hx),
    List.eq_nil_iff_forall_not_mem.mpr fun x hx => by simpa using (hm.2 x).mpr (Or.inr hx)⟩

theorem lookup_eq_of_vals {α : Type} (ctx : List (Name × α)) (n : Name) : ∀ (l : List (Name × α)),
    (∀ e ∈ l, ctx.lookup e.1 = some e.2) → n ∈ l.map Prod.fst → l.lookup n = ctx.lookup n := by
  intro l
  induction l with
  | nil => intro _ h; simp at h
  | cons y l ih =>
    intro hv h
    simp only [List.lookup]
    by_cases hy : n = y.1
    · subst hy; simp [hv y (by simp)]
    · simp only [beq_eq_false_iff_ne.mpr hy]
      simp only [List.map_cons, List.mem_cons] at h
      exact ih (fun e he => hv e (by simp [he])) (h.resolve_left hy)

theorem lookupAll_eq_some (ctx : List (Name × CSet)) : ∀ (ns : List Name) (l : List (Name × CSet)),
    Api.lookupAll ctx ns = some l ↔ l.map Prod.fst = ns ∧ ∀ e ∈ l, ctx.lookup e.1 = some e.2 := by
  intro ns
  induction ns with
  | nil => intro l; cases l <;> simp [Api.lookupAll]
  | cons m ns ih =>
    intro l
    simp only [Api.lookupAll]
    constructor
    · intro h
      cases h1 : ctx.lookup m with
      | none => simp [h1] at h
      | some s =>
        cases h2 : Api.lookupAll ctx ns with
        | none => simp [h1, h2] at h
        | some rest =>
          simp only [h1, h2, Option.some.injEq] at h
          subst h
          obtain ⟨a, b⟩ := (ih rest).mp h2
          exact ⟨by simp [a], by simpa [h1] using b⟩
    · rintro ⟨h1, h2⟩
      cases l with
      | nil => simp at h1
      | cons e l =>
        simp only [List.map_cons, List.cons.injEq] at h1
        obtain ⟨rfl, h1⟩ := h1
        have := (ih l).mpr ⟨h1, fun e' he' => h2 e' (by simp [he'])⟩
        simp [h2 e (by simp), this]

/-- `validate_and_divide_wild_cards` for one tree: the step `Api.parseAll` and `Cli.collectCtx` share -/
def ctxFor (ext : Bool) (ctx : List (Name × CSet)) (t : Tree) : Option (List (Name × CSet) × List (Name × CSet)) :=
  if ext then
    match Api.lookupAll ctx (t.wildCards ([], [])).1, Api.lookupAll ctx (t.wildCards ([], [])).2 with
    | some p, some d => some (p, d)
    | _, _ => none
  else some ([], [])

theorem ctxFor_false (ctx : List (Name × CSet)) (t : Tree) : ctxFor false ctx t = some ([], []) := rfl

theorem ctxFor_true (ctx : List (Name × CSet)) (t : Tree) (p d : List (Name × CSet)) :
    ctxFor true ctx t = some (p, d) ↔
      Api.lookupAll ctx (t.wildCards ([], [])).1 = some p ∧ Api.lookupAll ctx (t.wildCards ([], [])).2 = some d := by
  simp only [ctxFor, if_true]
  cases Api.lookupAll ctx (t.wildCards ([], [])).1 <;> cases Api.lookupAll ctx (t.wildCards ([], [])).2 <;> simp

theorem collectCtx_cons (ext : Bool) (ctx : List (Name × CSet)) (t : Tree) (ts : List Tree) :
    Cli.collectCtx ext ctx (t :: ts) =
      match ctxFor ext ctx t with
      | none => none
      | some (p, d) =>
        match Cli.collectCtx ext ctx ts with
        | none => none
        | some (p', d') => some (p ++ p', d ++ d') := rfl

theorem parseAll_cons (E : Env) (K : CharClass) (ext : Bool) (ctx : List (Name × CSet)) (f : List Char)
    (fs : List (List Char)) :
    Api.parseAll E K ext ctx (f :: fs) =
      match Api.parseOne E K ext f with
      | .error e => .error e
      | .ok t =>
        match ctxFor ext ctx t with
        | none => .error .nocontext
        | some (p, d) =>
          match Api.parseAll E K ext ctx fs with
          | .error e => .error e
          | .ok (ts, p', d') => .ok (t :: ts, p ++ p', d ++ d') := rfl

theorem collectCtx_false (ctx : List (Name × CSet)) : ∀ (ts : List Tree), Cli.collectCtx false ctx ts = some ([], []) := by
  intro ts
  induction ts with
  | nil => rfl
  | cons t ts ih => simp [collectCtx_cons, ctxFor_false, ih]

theorem collectCtx_true (ctx : List (Name × CSet)) : ∀ (ts : List Tree) (ps ds : List (Name × CSet)),
    Cli.collectCtx true ctx ts = some (ps, ds) →
      (ps.map Prod.fst = ts.flatMap (fun t => (t.wildCards ([], [])).1) ∧ ∀ e ∈ ps, ctx.lookup e.1 = some e.2) ∧
      (ds.map Prod.fst = ts.flatMap (fun t => (t.wildCards ([], [])).2) ∧ ∀ e ∈ ds, ctx.lookup e.1 = some e.2) := by
  intro ts
  induction ts with
  | nil => intro ps ds h; cases h; simp
  | cons t ts ih =>
    intro ps ds h
    rw [collectCtx_cons] at h
    cases hf : ctxFor true ctx t with
    | none => simp [hf] at h
    | some pd =>
      cases hr : Cli.collectCtx true ctx ts with
      | none => simp [hf, hr] at h
      | some r =>
        simp only [hf, hr, Option.some.injEq, Prod.mk.injEq] at h
        obtain ⟨rfl, rfl⟩ := h
        obtain ⟨hp, hd⟩ := (ctxFor_true ctx t pd.1 pd.2).mp hf
        obtain ⟨⟨p1, p2⟩, d1, d2⟩ := ih r.1 r.2 hr
        obtain ⟨p3, p4⟩ := (lookupAll_eq_some ctx _ _).mp hp
        obtain ⟨d3, d4⟩ := (lookupAll_eq_some ctx _ _).mp hd
        simp only [List.map_append, List.flatMap_cons, List.mem_append, p1, p3, d1, d3, true_and]
        exact ⟨fun e he => he.elim (p4 e) (p2 e), fun e he => he.elim (d4 e) (d2 e)⟩

variable (E : Env) (K : CharClass)

theorem parseOne_ok_iff (ext : Bool) (cs : List Char) (t' : Tree) :
    Api.parseOne E K ext cs = .ok t' ↔ ∃ toks t, Lex.tokenize K ext cs = .ok toks ∧ parseToks toks = .ok t ∧
      rename (fun n => (E.G.label n).isSome) t = .ok t' ∧ t'.numQuantVars ≤ E.G.k := by
  unfold Api.parseOne
  cases hl : Lex.tokenize K ext cs with
  | error e => simp
  | ok toks =>
    cases hp : parseToks toks with
    | error e => simp [hp]
    | ok t =>
      cases hr : rename (fun n => (E.G.label n).isSome) t with
      | error e => cases e <;> simp [hp, hr]
      | ok t2 =>
        simp only [hp, hr]
        constructor
        · intro h
          split at h
          · cases h
          · cases h; exact ⟨toks, t, rfl, hp, hr, by omega⟩
        · rintro ⟨toks', t0, h1, h2, h3, h4⟩
          cases h1
          rw [hp] at h2; cases h2
          rw [hr] at h3; cases h3
          rw [if_neg (by omega)]

theorem parseOne_plain (hK : Lex.CharOK K) (cs : List Char) (t : Tree) (h : Api.parseOne E K false cs = .ok t) :
    Plain t := by
  obtain ⟨toks, t0, hl, hp, hr, _⟩ := (parseOne_ok_iff E K false cs t).mp h
  exact (Renamed.of_ok hr).plain (plain_of_accepted K hK cs toks t0 hl hp)

/-- Both sides peel one formula at a time (`parseAll_cons`, `collectCtx_cons`); a failure of one is a failure of the other. -/
theorem parseAll_ok_iff (ext : Bool) (ctx : List (Name × CSet)) : ∀ (fs : List (List Char)) (ts : List Tree)
    (ps ds : List (Name × CSet)), Api.parseAll E K ext ctx fs = .ok (ts, ps, ds) ↔
      fs.map (Api.parseOne E K ext) = ts.map .ok ∧ Cli.collectCtx ext ctx ts = some (ps, ds) := by
  intro fs
  induction fs with
  | nil =>
    intro ts ps ds
    constructor
    · intro h
      have h' : Except.ok ([], [], []) = Except.ok (ts, ps, ds) := h
      cases h'
      exact ⟨rfl, rfl⟩
    · rintro ⟨h1, h2⟩
      cases ts with
      | nil => have h' : some ([], []) = some (ps, ds) := h2; cases h'; rfl
      | cons t ts => cases h1
  | cons f fs ih =>
    intro ts ps ds
    rw [parseAll_cons, List.map_cons]
    cases hp : Api.parseOne E K ext f with
    | error e =>
      refine ⟨fun h => (by cases h), fun h => ?_⟩
      cases ts with
      | nil => cases h.1
      | cons t' ts0 => cases (List.cons.inj h.1).1
    | ok t =>
      simp only
      constructor
      · intro h
        cases hf : ctxFor ext ctx t with
        | none => rw [hf] at h; cases h
        | some pd =>
          cases hr : Api.parseAll E K ext ctx fs with
          | error e => rw [hf, hr] at h; cases h
          | ok r =>
            obtain ⟨ts0, p', d'⟩ := r
            rw [hf, hr] at h
            cases h
            obtain ⟨a, b⟩ := (ih ts0 p' d').mp hr
            exact ⟨by rw [List.map_cons, a], by rw [collectCtx_cons, hf, b]⟩
      · rintro ⟨h1, h2⟩
        cases ts with
        | nil => cases h1
        | cons t' ts0 =>
          obtain ⟨ht, hm⟩ := List.cons.inj h1
          cases ht
          rw [collectCtx_cons] at h2
          cases hf : ctxFor ext ctx t with
          | none => rw [hf] at h2; cases h2
          | some pd =>
            cases hr : Cli.collectCtx ext ctx ts0 with
            | none => rw [hf, hr] at h2; cases h2
            | some r =>
              obtain ⟨p', d'⟩ := r
              rw [hf, hr] at h2
              cases h2
              rw [(ih ts0 p' d').mpr ⟨hm, hr⟩]

theorem parseAll_false_ctx (ctx ctx' : List (Name × CSet)) : ∀ (fs : List (List Char)),
    Api.parseAll E K false ctx fs = Api.parseAll E K false ctx' fs := by
  intro fs
  induction fs with
  | nil => rfl
  | cons f fs ih => rw [parseAll_cons, parseAll_cons, ih]; rfl

theorem parseAll_false_nil {ctx : List (Name × CSet)} {fs : List (List Char)} {trees : List Tree}
    {ps ds : List (Name × CSet)} (h : Api.parseAll E K false ctx fs = .ok (trees, ps, ds)) : ps = [] ∧ ds = [] := by
  have := ((parseAll_ok_iff E K false ctx fs trees ps ds).mp h).2
  rw [collectCtx_false] at this
  cases this
  exact ⟨rfl, rfl⟩

/-- errors included -/
theorem parseAll_congr (ext : Bool) (ctx : List (Name × CSet)) : ∀ (fs gs : List (List Char)),
    fs.map (Api.parseOne E K ext) = gs.map (Api.parseOne E K ext) →
    Api.parseAll E K ext ctx fs = Api.parseAll E K ext ctx gs := by
  intro fs
  induction fs with
  | nil => intro gs h; cases gs <;> simp_all
  | cons f fs ih =>
    intro gs h
    cases gs with
    | nil => simp at h
    | cons g gs =>
      simp only [List.map_cons, List.cons.injEq] at h
      simp only [parseAll_cons, h.1, ih gs h.2]

theorem parseAll_get (ext : Bool) (ctx : List (Name × CSet)) (fs : List (List Char)) (trees : List Tree)
    (ps ds : List (Name × CSet)) (h : Api.parseAll E K ext ctx fs = .ok (trees, ps, ds)) :
    trees.length = fs.length ∧
      ∀ i (hi : i < fs.length) (hi' : i < trees.length), Api.parseOne E K ext fs[i] = .ok trees[i] := by
  have hm := ((parseAll_ok_iff E K ext ctx fs trees ps ds).mp h).1
  refine ⟨by simpa using (congrArg List.length hm).symm, fun i hi hi' => ?_⟩
  have := congrArg (fun l => l[i]?) hm
  simpa [hi, hi'] using this

theorem parseAll_spec (hK : Lex.CharOK K) (ext : Bool) (ctx : List (Name × CSet)) (fs : List (List Char))
    (trees : List Tree) (ps ds : List (Name × CSet)) (h : Api.parseAll E K ext ctx fs = .ok (trees, ps, ds)) :
    (∀ t ∈ trees, (∃ cs, Api.parseOne E K ext cs = .ok t) ∧ (∀ w ∈ wildLabels t, w ∈ ps.map Prod.fst) ∧
      (∀ d ∈ domLabels t, d ∈ ds.map Prod.fst)) ∧
    (∀ e ∈ ps, ctx.lookup e.1 = some e.2 ∧ ∃ t ∈ trees, e.1 ∈ wildLabels t) ∧
    (∀ e ∈ ds, ctx.lookup e.1 = some e.2) := by
  obtain ⟨hm, hc⟩ := (parseAll_ok_iff E K ext ctx fs trees ps ds).mp h
  have hsrc : ∀ t ∈ trees, ∃ cs, Api.parseOne E K ext cs = .ok t := by
    intro t ht
    have : Except.ok t ∈ fs.map (Api.parseOne E K ext) := hm ▸ List.mem_map.mpr ⟨t, ht, rfl⟩
    obtain ⟨cs, _, hcs⟩ := List.mem_map.mp this
    exact ⟨cs, hcs⟩
  cases ext with
  | false =>
    obtain ⟨rfl, rfl⟩ := parseAll_false_nil E K h
    refine ⟨fun t ht => ⟨hsrc t ht, ?_⟩, by simp, by simp⟩
    obtain ⟨cs, hcs⟩ := hsrc t ht
    have := plain_labels t (parseOne_plain E K hK cs t hcs)
    simp [this.1, this.2]
  | true =>
    obtain ⟨⟨p1, p2⟩, d1, d2⟩ := collectCtx_true ctx trees ps ds hc
    refine ⟨fun t ht => ⟨hsrc t ht, fun w hw => ?_, fun d hd => ?_⟩, fun e he => ⟨p2 e he, ?_⟩, d2⟩
    · rw [p1]
      exact List.mem_flatMap.mpr ⟨t, ht, ((mem_wildCards t ([], [])).1 w).mpr (Or.inr hw)⟩
    · rw [d1]
      exact List.mem_flatMap.mpr ⟨t, ht, ((mem_wildCards t ([], [])).2 d).mpr (Or.inr hd)⟩
    · have : e.1 ∈ ps.map Prod.fst := List.mem_map.mpr ⟨e, he, rfl⟩
      rw [p1] at this
      obtain ⟨t, ht, hw⟩ := List.mem_flatMap.mp this
      exact ⟨t, ht, by simpa using ((mem_wildCards t ([], [])).1 e.1).mp hw⟩

end Hctl
