/-
  What holds of every leaf of a token list (`Tok.flatList`) or of a tree's frontier, for an arbitrary leaf predicate,
  and the instance "plain".
-/
import HctlProofs.Lemmas.Parser
import HctlProofs.Spec.Scoping
namespace Hctl

theorem flatList_append (a b : List Tok) : Tok.flatList (a ++ b) = Tok.flatList a ++ Tok.flatList b := by
  induction a with
  | nil => simp [Tok.flatList]
  | cons t a ih => simp [Tok.flatList, ih]

section leaves
variable {P : Leaf → Prop}

theorem Tok.forall_flatList_nil : ∀ l ∈ Tok.flatList [], P l := by
  intro l hl; simp [Tok.flatList] at hl

theorem Tok.forall_flatList_cons {t : Tok} {ts : List Tok} (ht : ∀ l ∈ t.flat, P l) (hts : ∀ l ∈ Tok.flatList ts, P l) :
    ∀ l ∈ Tok.flatList (t :: ts), P l := by
  intro l hl
  simp only [Tok.flatList, List.mem_append] at hl
  cases hl with
  | inl h => exact ht l h
  | inr h => exact hts l h

theorem Tok.forall_flat_group {ts : List Tok} (h : ∀ l ∈ Tok.flatList ts, P l) : ∀ l ∈ (Tok.group ts).flat, P l := by
  intro l hl; simp only [Tok.flat] at hl; exact h l hl

theorem Tok.forall_flat_un {o : UnOp} (h : P (.un o)) : ∀ l ∈ (Tok.un o).flat, P l := by
  intro l hl; simp only [Tok.flat, List.mem_singleton] at hl; exact hl ▸ h

theorem Tok.forall_flat_bin {o : BinOp} (h : P (.bin o)) : ∀ l ∈ (Tok.bin o).flat, P l := by
  intro l hl; simp only [Tok.flat, List.mem_singleton] at hl; exact hl ▸ h

theorem Tok.forall_flat_hyb {o : HybOp} {v : Name} {d : Option Name} (h : P (.hyb o v d)) :
    ∀ l ∈ (Tok.hyb o v d).flat, P l := by
  intro l hl; simp only [Tok.flat, List.mem_singleton] at hl; exact hl ▸ h

theorem Tok.forall_flat_atom {a : Atom} (h : P (.atom (atomOfTok a))) : ∀ l ∈ (Tok.atom a).flat, P l := by
  intro l hl; simp only [Tok.flat, List.mem_singleton] at hl; exact hl ▸ h

theorem Tree.of_forall_frontier {Q : Tree → Prop} (atom : ∀ a, P (.atom a) → Q (.atom a))
    (un : ∀ o c, Q c → Q (.un o c)) (bin : ∀ o l r, Q l → Q r → Q (.bin o l r))
    (hyb : ∀ o v d c, P (.hyb o v d) → Q c → Q (.hyb o v d c)) : ∀ t : Tree, (∀ l ∈ t.frontier, P l) → Q t := by
  intro t
  induction t with
  | atom a => exact fun h => atom a (h _ (List.mem_singleton_self _))
  | un o c ih => exact fun h => un o c (ih (fun l hl => h l (List.mem_cons_of_mem _ hl)))
  | bin o l r ihl ihr =>
    exact fun h => bin o l r (ihl (fun x hx => h x (List.mem_append_left _ hx)))
      (ihr (fun x hx => h x (List.mem_append_right _ (List.mem_cons_of_mem _ hx))))
  | hyb o v d c ih =>
    exact fun h => hyb o v d c (h _ (List.mem_cons_self ..)) (ih (fun l hl => h l (List.mem_cons_of_mem _ hl)))

end leaves

theorem plainTok_group {ts : List Tok} (h : PlainToks ts) : PlainTok (.group ts) := Tok.forall_flat_group h

theorem plainTok_prop (n : Name) : PlainTok (.atom (.prop n)) := by
  apply Tok.forall_flat_atom
  rcases constOrProp_cases n with h | h | h <;> rw [atomOfTok_prop h] <;> trivial

theorem plain_of_frontier : ∀ (t : Tree), (∀ l ∈ t.frontier, PlainLeaf l) → Plain t :=
  Tree.of_forall_frontier (fun a h => by cases a <;> first | trivial | exact h) (fun _ _ h => h)
    (fun _ _ _ hl hr => ⟨hl, hr⟩) (fun _ _ _ _ h hc => ⟨h, hc⟩)

end Hctl
