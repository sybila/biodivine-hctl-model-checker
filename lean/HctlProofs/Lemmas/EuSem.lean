/-
  `eval_eu_saturated`: the saturation loop computes exactly E[φ U ψ] (least fixed point).  It terminates because
  every productive round adds a point of the finite universe.
-/
import HctlProofs.Lemmas.OpsSem
import HctlProofs.Lemmas.Kripke
namespace Hctl
open Kripke

theorem EUi_R_iff_step (G : Graph) (c : Nat) (φ ψ : Nat → Prop) (s : Nat) :
    EUi (G.R c) φ ψ s ↔ EUi (G.stepRel c) φ ψ s := by
  constructor
  · intro h
    induction h with
    | here h => exact EUi.here h
    | step hφ hR _ ih =>
      cases hR with
      | inl hs => exact EUi.step hφ hs ih
      | inr hs => rw [hs.2] at ih; exact ih
  · intro h
    induction h with
    | here h => exact EUi.here h
    | step hφ hR _ ih => exact EUi.step hφ (Or.inl hR) ih

theorem total_R (G : Graph) (c : Nat) : Total (G.R c) := by
  intro s
  by_cases h : ∃ t, G.stepRel c s t
  · obtain ⟨t, ht⟩ := h; exact ⟨t, Or.inl ht⟩
  · refine ⟨s, Or.inr ⟨?_, rfl⟩⟩
    intro j hj
    cases hs : G.step c j s with
    | none => rfl
    | some t => exact absurd ⟨t, j, hj, hs⟩ h

/-- the update of one variable in one round -/
def euUpd (E : Env) (phi1 res : CSet) (j : Nat) : CSet := (phi1.inter (Ops.varPre E j res)).minus res

theorem mem_euUpd {E : Env} {phi1 res : CSet} {j : Nat} {p : Point} :
    euUpd E phi1 res j p = true ↔
      (phi1 p = true ∧ ∃ t, E.G.step p.c j p.s = some t ∧ res (p.setS t) = true) ∧ res p = false := by
  rw [euUpd, CSet.mem_minus, CSet.mem_inter, mem_varPre]

theorem euStep_none {E : Env} {phi1 res : CSet} (h : Ops.euStep E phi1 res = none) :
    ∀ j, j < E.G.nV → ∀ p ∈ E.pts, euUpd E phi1 res j p = false := by
  intro j hj
  have := List.findSome?_eq_none_iff.mp h j (List.mem_reverse.mpr (List.mem_range.mpr hj))
  exact isEmptyOn_iff.mp (show isEmptyOn E.pts (euUpd E phi1 res j) = true by simpa [euUpd] using this)

theorem euStep_some {E : Env} {phi1 res r : CSet} (h : Ops.euStep E phi1 res = some r) :
    ∃ j, j < E.G.nV ∧ r = E.tab (res.union (euUpd E phi1 res j)) ∧ ∃ p ∈ E.pts, euUpd E phi1 res j p = true := by
  obtain ⟨j, hj, hh⟩ := List.exists_of_findSome?_eq_some h
  change (if isEmptyOn E.pts (euUpd E phi1 res j) = true then none else some _) = some r at hh
  split at hh
  · cases hh
  · rename_i hem
    refine ⟨j, List.mem_range.mp (List.mem_reverse.mp hj), (Option.some.inj hh).symm, ?_⟩
    simpa [isEmptyOn] using hem

section eu
variable {E : Env} (hE : EnvOK E) (hG : GraphWF E.G)
include hE

/-- what the loop can reach from `b` (its `Iter`): rounds that add the update of some variable -/
inductive EuReach (E : Env) (phi1 b : CSet) : CSet → Prop
  | base : EuReach E phi1 b b
  | step {x j} : j < E.G.nV → EuReach E phi1 b x → EuReach E phi1 b (E.tab (x.union (euUpd E phi1 x j)))

theorem euStep_sub (phi1 res : CSet) (j : Nat) : SubOn E.pts res (E.tab (res.union (euUpd E phi1 res j))) :=
  fun q hq h => by rw [hE.tab_ok _ q hq]; exact (CSet.mem_union ..).mpr (Or.inl h)

/-- with enough fuel the loop stops only when no variable can add a point -/
theorem euLoop_fix {phi1 b : CSet} :
    ∀ n res, EuReach E phi1 b res → E.pts.length < n + card E.pts res →
      EuReach E phi1 b (Ops.euLoop E n phi1 res) ∧
      ∀ j, j < E.G.nV → ∀ p ∈ E.pts, euUpd E phi1 (Ops.euLoop E n phi1 res) j p = false := by
  intro n
  induction n with
  | zero =>
    intro res _ hn
    have := card_le_length E.pts res
    omega
  | succ n ih =>
    intro res hres hn
    unfold Ops.euLoop
    cases hs : Ops.euStep E phi1 res with
    | none => exact ⟨hres, euStep_none hs⟩
    | some r =>
      obtain ⟨j, hj, rfl, p, hp, hup⟩ := euStep_some hs
      have := card_lt (euStep_sub hE phi1 res j) fun heq => by
        have hp' := heq p hp
        rw [hE.tab_ok _ p hp, (mem_euUpd.mp hup).2] at hp'
        exact absurd ((CSet.mem_union ..).mpr (Or.inr hup)) (by rw [← hp']; exact Bool.false_ne_true)
      exact ih _ (.step hj hres) (by omega)

include hG in
theorem sem_eu {U0 st U a b : CSet} {d : Nat} {φ ψ : Point → Prop} (hU : UnitOK E U0 st U d)
    (ha : Sem E a U φ) (hb : Sem E b U ψ) :
    Sem E (Ops.evalEuSat E a b) U
      (fun p => EUi (E.G.R p.c) (fun t => φ (p.setS t)) (fun t => ψ (p.setS t)) p.s) := by
  obtain ⟨hreach, hclosed⟩ := euLoop_fix hE (phi1 := a) (E.pts.length + 1) b .base (by omega)
  intro p hp
  constructor
  · -- soundness is an invariant of the sets the loop reaches
    have hsound : ∀ x, EuReach E a b x → ∀ q ∈ E.pts, x q = true →
        U q = true ∧ EUi (E.G.stepRel q.c) (fun t => φ (q.setS t)) (fun t => ψ (q.setS t)) q.s := by
      intro x hx
      induction hx with
      | base => exact fun q hq h => ⟨((hb q hq).mp h).1, EUi.here ((hb q hq).mp h).2⟩
      | @step x j hj _ ih =>
        intro q hq h
        rw [hE.tab_ok _ q hq] at h
        rcases (CSet.mem_union ..).mp h with h | h
        · exact ih q hq h
        · obtain ⟨⟨haq, t, hs, hpre⟩, _⟩ := mem_euUpd.mp h
          have hqt := hE.setS_mem hq (hG.step_lt _ _ _ _ hs (hE.s_lt hq))
          exact ⟨((ha q hq).mp haq).1, EUi.step ((ha q hq).mp haq).2 ⟨j, hj, hs⟩ (ih _ hqt hpre).2⟩
    intro h
    exact ⟨(hsound _ hreach p hp h).1, (EUi_R_iff_step E.G p.c _ _ p.s).mpr (hsound _ hreach p hp h).2⟩
  · -- the result contains `b` and is closed under every update, so it contains the least fixed point
    rintro ⟨hu, heu⟩
    rw [EUi_R_iff_step] at heu
    have hsubb : SubOn E.pts b (Ops.evalEuSat E a b) := by
      have : ∀ x, EuReach E a b x → SubOn E.pts b x := by
        intro x hx
        induction hx with
        | base => exact SubOn.refl b
        | step _ _ ih => exact SubOn.trans ih (euStep_sub hE a _ _)
      exact this _ hreach
    have key : ∀ s, EUi (E.G.stepRel p.c) (fun t => φ (p.setS t)) (fun t => ψ (p.setS t)) s →
        s < E.G.nS → Ops.evalEuSat E a b (p.setS s) = true := by
      intro s h
      induction h with
      | @here s hψ =>
        intro hs
        have hq := hE.setS_mem hp hs
        exact hsubb _ hq ((hb _ hq).mpr ⟨by rw [hU.stateIndep p hp s hs]; exact hu, hψ⟩)
      | @step s t hφ hR _ ih =>
        intro hs
        obtain ⟨j, hj, hst⟩ := hR
        have ht := hG.step_lt _ _ _ _ hst hs
        have hq := hE.setS_mem hp hs
        have haq : a (p.setS s) = true := (ha _ hq).mpr ⟨by rw [hU.stateIndep p hp s hs]; exact hu, hφ⟩
        -- if the point were missing, variable `j` could still add it
        cases hr : Ops.evalEuSat E a b (p.setS s) with
        | true => rfl
        | false =>
          exact absurd ((hclosed j hj _ hq).symm.trans (mem_euUpd.mpr ⟨⟨haq, t, hst, ih ht⟩, hr⟩)) Bool.false_ne_true
    exact key p.s heu (hE.s_lt hp)

end eu
end Hctl
