/-
  Facts about the parser's building blocks and about the grammar `D`: each token is an operator of one level (`rank`),
  so a list derived at the next tighter level holds nothing the parser would split at (`D.no_split`).
-/
import HctlProofs.Spec.Grammar
namespace Hctl

theorem constOrProp_cases (n : Name) :
    constOrProp n = .atom .tt ∨ constOrProp n = .atom .ff ∨ constOrProp n = .atom (.prop n) := by
  unfold constOrProp
  split
  · exact .inl rfl
  · split
    · exact .inr (.inl rfl)
    · exact .inr (.inr rfl)

theorem atomOfTok_prop {n : Name} {a : Atom} (h : constOrProp n = .atom a) : atomOfTok (.prop n) = a := by
  simp only [atomOfTok, h]

theorem constOrProp_atom (n : Name) : constOrProp n = .atom (atomOfTok (.prop n)) := by
  rcases constOrProp_cases n with h | h | h
  all_goals rw [atomOfTok_prop h, h]

theorem D.prop_of {n : Name} {a : Atom} (h : constOrProp n = .atom a) : D .term [.atom (.prop n)] (.atom a) :=
  h ▸ D.prop

/-- the renderer's spellings of the constants -/
theorem constOrProp_True : constOrProp ['T','r','u','e'] = .atom .tt :=
  if_pos (.inr (.inl String.toList_ofList.symm))

theorem constOrProp_False : constOrProp ['F','a','l','s','e'] = .atom .ff :=
  (if_neg (by decide +kernel)).trans (if_pos (.inr (.inl String.toList_ofList.symm)))

theorem splitFirst_some {p : Tok → Bool} {ts pre post : List Tok} {x : Tok}
    (h : splitFirst p ts = some (pre, x, post)) :
    ts = pre ++ x :: post ∧ p x = true ∧ ∀ y ∈ pre, p y = false := by
  fun_induction splitFirst p ts generalizing pre with
  | case1 => cases h
  | case2 t ts hp => cases h; exact ⟨rfl, hp, nofun⟩
  | case3 t ts hp pre' x' post' hs ih =>
    cases h
    obtain ⟨rfl, hx, hpre⟩ := ih hs
    exact ⟨rfl, hx, List.forall_mem_cons.2 ⟨by simpa using hp, hpre⟩⟩
  | case4 t ts hp hs => cases h

theorem splitFirst_none {p : Tok → Bool} {ts : List Tok} :
    splitFirst p ts = none ↔ ∀ y ∈ ts, p y = false := by
  fun_induction splitFirst p ts with
  | case1 => simp
  | case2 t ts hp => simp [hp]
  | case3 t ts hp pre' x' post' hs ih =>
    simp only [hs, reduceCtorEq, false_iff] at ih ⊢
    exact fun h => ih (List.forall_mem_cons.1 h).2
  | case4 t ts hp hs ih =>
    simp only [hs, true_iff] at ih ⊢
    exact List.forall_mem_cons.2 ⟨by simpa using hp, ih⟩

theorem splitFirst_append {p : Tok → Bool} {pre post : List Tok} {x : Tok}
    (hpre : ∀ y ∈ pre, p y = false) (hx : p x = true) :
    splitFirst p (pre ++ x :: post) = some (pre, x, post) := by
  induction pre with
  | nil => simp [splitFirst, hx]
  | cons t pre ih =>
    obtain ⟨ht, hpre⟩ := List.forall_mem_cons.1 hpre
    simp [splitFirst, ht, ih hpre]

def Lvl.rank : Lvl → Nat
  | .hyb => 1 | .iff => 2 | .imp => 3 | .or => 4 | .xor => 5 | .and => 6 | .bt => 7 | .un => 8 | .term => 9

/-- the rank of the level whose rule consumes the token -/
def Tok.rank : Tok → Nat
  | .hyb .. => 1
  | .bin .iff => 2 | .bin .imp => 3 | .bin .or => 4 | .bin .xor => 5 | .bin .and => 6
  | .bin _ => 7
  | .un _ => 8
  | .atom _ => 9 | .group _ => 9

theorem Lvl.rank_next_gt {k : Lvl} (h : k ≠ .term) : k.rank < k.next.rank := by
  cases k <;> first | decide | exact absurd rfl h

/-- the test that `parse1` … `parse8` hand to `splitFirst` -/
def Lvl.splitPred : Lvl → Tok → Bool
  | .hyb => Tok.isHybrid
  | .iff => Tok.isBin .iff
  | .imp => Tok.isBin .imp
  | .or => Tok.isBin .or
  | .xor => Tok.isBin .xor
  | .and => Tok.isBin .and
  | .bt => Tok.isBinTemporal
  | .un => Tok.isUnary
  | .term => fun _ => false

theorem hasOp_eq_splitPred (k : Lvl) (o : BinOp) : k.hasOp o = k.splitPred (.bin o) := by
  cases k
  case hyb | bt | un | term => rfl
  all_goals cases o <;> rfl

def BinOp.lvl : BinOp → Lvl
  | .and => .and | .or => .or | .xor => .xor | .imp => .imp | .iff => .iff | _ => .bt

theorem BinOp.hasOp_lvl (o : BinOp) : o.lvl.hasOp o = true := by cases o <;> rfl

theorem hasOp_ne_term {k : Lvl} {o : BinOp} (h : k.hasOp o = true) : k ≠ .term := by
  rintro rfl
  cases h

theorem isHybrid_eq {x : Tok} (h : x.isHybrid = true) : ∃ o v d, x = .hyb o v d := by
  cases x with
  | hyb o v d => exact ⟨o, v, d, rfl⟩
  | _ => cases h

theorem isBin_eq {o : BinOp} {x : Tok} (h : Tok.isBin o x = true) : x = .bin o := by
  cases x with
  | bin o' => exact congrArg Tok.bin (eq_of_beq h)
  | _ => cases h

theorem isBinTemporal_eq {x : Tok} (h : x.isBinTemporal = true) : ∃ o, x = .bin o ∧ o.isTemporal = true := by
  cases x with
  | bin o => exact ⟨o, rfl, h⟩
  | _ => cases h

theorem isUnary_eq {x : Tok} (h : x.isUnary = true) : ∃ o, x = .un o := by
  cases x with
  | un o => exact ⟨o, rfl⟩
  | _ => cases h

theorem splitPred_cases {k : Lvl} {x : Tok} (h : k.splitPred x = true) :
    (k = .hyb ∧ ∃ o v d, x = .hyb o v d) ∨ (∃ o, k.hasOp o = true ∧ x = .bin o) ∨ (k = .un ∧ ∃ o, x = .un o) := by
  cases k
  case hyb => exact .inl ⟨rfl, isHybrid_eq h⟩
  case bt =>
    obtain ⟨o, rfl, ho⟩ := isBinTemporal_eq h
    exact .inr (.inl ⟨o, ho, rfl⟩)
  case un => exact .inr (.inr ⟨rfl, isUnary_eq h⟩)
  case term => cases h
  all_goals exact .inr (.inl ⟨_, rfl, isBin_eq h⟩)

theorem splitPred_rank {k : Lvl} {y : Tok} (h : k.splitPred y = true) : y.rank = k.rank := by
  cases k
  case hyb => obtain ⟨o, v, d, rfl⟩ := isHybrid_eq h; rfl
  case bt => obtain ⟨o, rfl, ho⟩ := isBinTemporal_eq h; cases o <;> first | rfl | cases ho
  case un => obtain ⟨o, rfl⟩ := isUnary_eq h; rfl
  case term => cases h
  all_goals rw [isBin_eq h]; rfl

theorem D.rank_le {k ts t} (h : D k ts t) : ∀ y ∈ ts, k.rank ≤ y.rank := by
  induction h with
  | hyb _ ih => exact List.forall_mem_cons.2 ⟨Nat.le_refl _, ih⟩
  | @bin k o l r a b hop _ _ ihl ihr =>
    have hlt := Lvl.rank_next_gt (hasOp_ne_term hop)
    exact List.forall_mem_append.2 ⟨fun y hy => Nat.le_trans (Nat.le_of_lt hlt) (ihl y hy),
      List.forall_mem_cons.2 ⟨Nat.le_of_eq (splitPred_rank (hasOp_eq_splitPred k o ▸ hop)).symm, ihr⟩⟩
  | un _ ih => exact List.forall_mem_cons.2 ⟨Nat.le_refl _, ih⟩
  | up hk _ ih => exact fun y hy => Nat.le_trans (Nat.le_of_lt (Lvl.rank_next_gt hk)) (ih y hy)
  | prop | var | wild | group => exact List.forall_mem_singleton.2 (Nat.le_refl _)

theorem D.no_split {k : Lvl} {ts t} (hk : k ≠ Lvl.term) (h : D k.next ts t) : ∀ y ∈ ts, k.splitPred y = false := by
  intro y hy
  cases hp : k.splitPred y with
  | false => rfl
  | true =>
    have := h.rank_le y hy
    rw [splitPred_rank hp] at this
    exact absurd this (Nat.not_le.2 (Lvl.rank_next_gt hk))

theorem split_bin {k : Lvl} {o : BinOp} {l r : List Tok} {a : Tree} (hop : k.hasOp o = true)
    (hl : D k.next l a) : splitFirst k.splitPred (l ++ .bin o :: r) = some (l, .bin o, r) :=
  splitFirst_append (D.no_split (hasOp_ne_term hop) hl) (hasOp_eq_splitPred k o ▸ hop)

theorem split_up {k : Lvl} {ts : List Tok} {t : Tree} (hk : k ≠ .term) (h : D k.next ts t) :
    splitFirst k.splitPred ts = none :=
  splitFirst_none.mpr (D.no_split hk h)

theorem D.up' {k ts t} (h : D k.next ts t) : D k ts t := by
  by_cases hk : k = .term
  · subst hk; exact h
  · exact D.up hk h

theorem D.ups {ts t} (j : Nat) {k : Lvl} : D (Nat.repeat Lvl.next j k) ts t → D k ts t := by
  induction j with
  | zero => exact id
  | succ j ih => exact fun h => ih h.up'

/-- `.term` is eight steps below every level -/
theorem D.of_term {ts t} (h : D .term ts t) (k : Lvl) : D k ts t :=
  D.ups 8 (by cases k <;> exact h)

theorem D.to_hyb {k ts t} (h : D k ts t) : D .hyb ts t :=
  D.ups (k.rank - 1) (by cases k <;> exact h)

theorem D.subst_term {x x' : Tok} (hx : x.rank = 9) (hsub : ∀ u, D .term [x] u → D .term [x'] u) {k ts t}
    (h : D k ts t) : ∀ pre post, ts = pre ++ x :: post → D k (pre ++ x' :: post) t := by
  have hbin : ∀ o, x ≠ .bin o := fun o h => by subst h; cases o <;> cases hx
  -- the one token of a terminal rule is `x` itself
  have term : ∀ {y : Tok} {u : Tree}, D .term [y] u → ∀ pre post, [y] = pre ++ x :: post →
      D .term (pre ++ x' :: post) u := by
    rintro y u hy (_ | ⟨p, pre⟩) post he
    · obtain ⟨rfl, rfl⟩ := List.cons.inj he
      exact hsub u hy
    · cases pre <;> cases (List.cons.inj he).2
  induction h with
  | @hyb o v d r c _ ih =>
    rintro (_ | ⟨p, pre⟩) post he
    · cases (List.cons.inj he).1
      cases hx
    · obtain ⟨rfl, he'⟩ := List.cons.inj he
      exact D.hyb (ih pre post he')
  | @un o r c _ ih =>
    rintro (_ | ⟨p, pre⟩) post he
    · cases (List.cons.inj he).1
      cases hx
    · obtain ⟨rfl, he'⟩ := List.cons.inj he
      exact D.un (ih pre post he')
  | @bin k o l r a b hop hl hr ihl ihr =>
    intro pre post he
    -- `x` is not the operator, so it lies in the left or in the right operand
    rcases List.append_eq_append_iff.mp he with ⟨m, rfl, hm⟩ | ⟨m, rfl, hm⟩
    · cases m with
      | nil => exact absurd (List.cons.inj hm).1.symm (hbin o)
      | cons y m =>
        obtain ⟨rfl, hm'⟩ := List.cons.inj hm
        rw [List.append_assoc]
        exact D.bin hop hl (ihr m post hm')
    · cases m with
      | nil => exact absurd (List.cons.inj hm).1 (hbin o)
      | cons y m =>
        obtain ⟨rfl, rfl⟩ := List.cons.inj hm
        have := D.bin (r := r) hop (ihl pre m rfl) hr
        rwa [List.append_assoc] at this
  | up hk _ ih => exact fun pre post he => D.up hk (ih pre post he)
  | prop => exact term D.prop
  | var => exact term D.var
  | wild => exact term D.wild
  | group hd => exact term (D.group hd)

theorem bin?_ok {o : BinOp} {x y : Except PErr Tree} {t : Tree} (h : bin? o x y = .ok t) :
    ∃ a b, x = .ok a ∧ y = .ok b ∧ t = .bin o a b := by
  cases x <;> cases y <;> simp_all [bin?]

theorem bin?_fuel {o : BinOp} {x y : Except PErr Tree} (h : bin? o x y = .error .fuel) :
    x = .error .fuel ∨ y = .error .fuel := by
  cases x <;> cases y <;> simp_all [bin?]

theorem _root_.Except.map_eq_ok {ε α β} {f : α → β} {x : Except ε α} {t : β} (h : x.map f = .ok t) :
    ∃ c, x = .ok c ∧ t = f c := by
  cases x with
  | error e => cases h
  | ok c => cases h; exact ⟨c, rfl, rfl⟩

theorem _root_.Except.map_eq_error {ε α β} {f : α → β} {x : Except ε α} {e : ε} (h : x.map f = .error e) :
    x = .error e := by
  cases x with
  | error e' => cases h; rfl
  | ok c => cases h

theorem weightList_cons (t : Tok) (ts : List Tok) : Tok.weightList (t :: ts) = t.weight + Tok.weightList ts := by
  simp [Tok.weightList]

theorem weightList_append (a b : List Tok) : Tok.weightList (a ++ b) = Tok.weightList a + Tok.weightList b := by
  induction a with
  | nil => simp [Tok.weightList]
  | cons t a ih => rw [List.cons_append, weightList_cons, weightList_cons, ih, Nat.add_assoc]

theorem weight_pos (t : Tok) : 0 < t.weight := by
  cases t <;> simp [Tok.weight]

theorem weightList_split (l : List Tok) (x : Tok) (r : List Tok) :
    Tok.weightList l < Tok.weightList (l ++ x :: r) ∧ Tok.weightList r < Tok.weightList (l ++ x :: r) := by
  rw [weightList_append, weightList_cons]
  have := weight_pos x
  omega

theorem weightList_group (ts : List Tok) : Tok.weightList ts < Tok.weightList [.group ts] := by
  simp [Tok.weightList, Tok.weight]

end Hctl
