/-
  Tokens of the lexical specification carry valid identifiers (`Sp.toksOK`), and a tree whose frontier does satisfies
  `TreeOK` and `PropNamesOK`, the premises of the print/parse round trip.
-/
import HctlProofs.Lemmas.LexPlain
namespace Hctl
open Lex

def LeafOK (K : CharClass) : Leaf → Prop
  | .hyb o v d => ValidId K v ∧ ∀ dn, d = some dn → o ≠ .jump ∧ ValidId K dn
  | .atom (.prop n) => ValidName K n ∧ constOrProp n = .atom (.prop n)
  | .atom (.var v) => ValidId K v
  | .atom (.wild v) => ValidId K v
  | _ => True

def TokOK (K : CharClass) (t : Tok) : Prop := ∀ l ∈ t.flat, LeafOK K l

theorem tokOK_prop {K : CharClass} {n : Name} (h : ValidName K n) : TokOK K (.atom (.prop n)) := by
  apply Tok.forall_flat_atom
  rcases constOrProp_cases n with h1 | h1 | h1 <;> rw [atomOfTok_prop h1]
  · trivial
  · trivial
  · exact ⟨h, h1⟩

namespace Lex
variable {K : CharClass}

theorem Seg.valid {pd : Bool} {seg : List Char} {v : Name} {d : Option Name} (h : Seg K pd seg v d) :
    ValidId K v ∧ ∀ dn, d = some dn → pd = true ∧ ValidId K dn := by
  cases h with
  | plain _ _ _ _ _ _ hv => exact ⟨hv, fun dn hd => by cases hd⟩
  | dom _ _ _ _ _ dn _ _ _ _ hv hd => exact ⟨hv, fun dn' h => by cases h; exact ⟨rfl, hd⟩⟩

theorem Seg.tokOK {ext : Bool} {o : HybOp} {seg : List Char} {v : Name} {d : Option Name}
    (h : Seg K (if o = .jump then false else ext) seg v d) : TokOK K (.hyb o v d) := by
  refine Tok.forall_flat_hyb ⟨h.valid.1, fun dn hd => ⟨?_, (h.valid.2 dn hd).2⟩⟩
  intro ho
  have := (h.valid.2 dn hd).1
  rw [if_pos ho] at this
  cases this

theorem Sp.toksOK {ext : Bool} {text : List Char} {ts : List Tok} (h : Sp K ext text ts) :
    ∀ l ∈ Tok.flatList ts, LeafOK K l := by
  induction h with
  | nil => exact Tok.forall_flatList_nil
  | ws _ _ _ _ _ ih => exact ih
  | not _ _ _ ih => exact Tok.forall_flatList_cons (Tok.forall_flat_un trivial) ih
  | binsym _ _ _ _ _ ih => exact Tok.forall_flatList_cons (Tok.forall_flat_bin trivial) ih
  | temp _ _ _ _ _ ht _ _ ih => exact Tok.forall_flatList_cons (tempUn_flat (fun _ => trivial) (fun _ => trivial) ht) ih
  | hybShort _ _ _ _ _ _ hseg _ ih => exact Tok.forall_flatList_cons hseg.tokOK ih
  | hybLong _ _ _ _ _ _ _ _ hseg _ ih => exact Tok.forall_flatList_cons hseg.tokOK ih
  | group _ _ _ _ _ _ ihi ih => exact Tok.forall_flatList_cons (Tok.forall_flat_group ihi) ih
  | var _ _ _ hv _ ih => exact Tok.forall_flatList_cons (Tok.forall_flat_atom hv) ih
  | wild _ _ _ _ hv _ ih => exact Tok.forall_flatList_cons (Tok.forall_flat_atom hv) ih
  | name _ _ _ hv _ _ ih => exact Tok.forall_flatList_cons (tokOK_prop hv) ih

end Lex

theorem treeOK_of_frontier (K : CharClass) : ∀ (t : Tree), (∀ l ∈ t.frontier, LeafOK K l) → TreeOK K t ∧ PropNamesOK t := by
  refine Tree.of_forall_frontier ?_ (fun _ _ h => h) (fun _ _ _ a b => ⟨⟨a.1, b.1⟩, a.2, b.2⟩) ?_
  · intro a h
    cases a with
    | prop n => exact h
    | var v => exact ⟨h, trivial⟩
    | wild v => exact ⟨h, trivial⟩
    | tt => exact ⟨trivial, trivial⟩
    | ff => exact ⟨trivial, trivial⟩
  · intro o v d c h hc
    refine ⟨⟨h.1, ?_, hc.1⟩, hc.2⟩
    cases d with
    | none => trivial
    | some dn => exact h.2 dn rfl

end Hctl
