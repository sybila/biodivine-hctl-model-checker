/-
  `Eval.evalNode` as a frame (`Eval.cached`: lookup, on a miss compute and store) around a node-wise body
  (`Eval.nodeBody`).  Proofs rewrite with `evalNode_eq`: unfolding the definition is dear (one large match, whose
  unfolding equation Lean derives again in every proof that asks for it).
-/
import HctlModel.Eval
namespace Hctl.Eval
variable (E : Env)

/-- lookup; on a miss evaluate `body`, which also says whether its result is stored -/
def cached (t : Tree) (U : CSet) (ctx : ECtx) (body : Res (Bool × CSet × ECtx)) : Res (CSet × ECtx) :=
  match lookup E t U ctx with
  | .fault f => .error f
  | .hit r ctx' => .ok (r, ctx')
  | .miss save key ren =>
    match body with
    | .error f => .error f
    | .ok (st, r, ctx1) => .ok (r, if st then store save key ren r ctx1 else ctx1)

/-- what `eval_node` computes on a miss: (store?, result, context after the children); the steady-state and the
empty-domain shortcut are not stored -/
def nodeBody (steady : CSet) : Tree → CSet → ECtx → Res (Bool × CSet × ECtx)
  | .atom .tt, U, ctx => .ok (true, U, ctx)
  | .atom .ff, _, ctx => .ok (true, CSet.empty, ctx)
  | .atom (.var n), U, ctx =>
    if varId n ≥ E.G.k then .error (.panic "mk_var_by_name")
    else .ok (true, E.tab (Ops.comparatorVarState U (varId n)), ctx)
  | .atom (.prop n), U, ctx =>
    match E.G.label n with
    | none => .error (.panic "find_network_variable.unwrap")
    | some f => .ok (true, E.tab (Ops.evalProp U f), ctx)
  | .atom (.wild _), _, _ => .error (.panic "unreachable: wild-card not in cache")
  | .un o c, U, ctx =>
    match evalNode E steady c U ctx with
    | .error f => .error f
    | .ok (cr, ctx1) => .ok (true, E.tab (evalUn E U steady o cr), ctx1)
  | .bin o l r, U, ctx =>
    match evalNode E steady l U ctx with
    | .error f => .error f
    | .ok (lr, ctx1) =>
      match evalNode E steady r U ctx1 with
      | .error f => .error f
      | .ok (rr, ctx2) => .ok (true, E.tab (evalBin E U steady o lr rr), ctx2)
  | .hyb op v dom c, U, ctx =>
    if isAttractorPattern (.hyb op v dom c) then .ok (true, E.tab (Ops.attractorsOf E U), ctx)
    else if isFixedPointPattern (.hyb op v dom c) then .ok (false, E.tab (steady.inter U), ctx)
    else if op = .jump then
      match evalNode E steady c U ctx with
      | .error f => .error f
      | .ok (cr, ctx1) =>
        if varId v ≥ E.G.k then .error (.panic "mk_var_by_name")
        else .ok (true, E.tab (Ops.evalJump E U cr (varId v)), ctx1)
    else
      match dom with
      | none =>
        match evalNode E steady c U { ctx with fvd := domInsert v none ctx.fvd } with
        | .error f => .error f
        | .ok (cr, ctx1) =>
          if varId v ≥ E.G.k then .error (.panic "extra_vars.get.unwrap")
          else .ok (true, E.tab (hybridQuantifier E U U op (varId v) cr), { ctx1 with fvd := domRemove v ctx1.fvd })
      | some d =>
        match ctx.domRaw.lookup d with
        | none => .error (.panic "domain_raw_sets.get.unwrap")
        | some domSet =>
          if varId v ≥ E.G.k then .error (.panic "mk_var_by_name")
          else if isEmptyOn E.pts (E.tab (U.inter (E.tab (Ops.validDomain E U domSet (varId v))))) then
            .ok (false, (match op with | .all => U | _ => CSet.empty),
              { ctx with fvd := domRemove v (domInsert v (some d) ctx.fvd) })
          else
            match evalNode E steady c (E.tab (U.inter (E.tab (Ops.validDomain E U domSet (varId v)))))
                { ctx with fvd := domInsert v (some d) ctx.fvd } with
            | .error f => .error f
            | .ok (cr, ctx1) =>
              .ok (true, E.tab (hybridQuantifier E U (E.tab (U.inter (E.tab (Ops.validDomain E U domSet (varId v)))))
                op (varId v) cr), { ctx1 with fvd := domRemove v ctx1.fvd })

theorem evalNode_eq (steady : CSet) (t : Tree) (U : CSet) (ctx : ECtx) :
    evalNode E steady t U ctx = cached E t U ctx (nodeBody E steady t U ctx) := by
  conv => lhs; unfold evalNode
  rw [cached]
  cases lookup E t U ctx with
  | fault f => rfl
  | hit r ctx' => rfl
  | miss save key ren =>
    cases t with
    | atom a =>
      simp only [isAttractorPattern, isFixedPointPattern, Bool.false_eq_true, if_false]
      cases a with
      | var n => simp only [nodeBody]; split <;> rfl
      | prop n => simp only [nodeBody]; cases E.G.label n <;> rfl
      | _ => rfl
    | un o c =>
      simp only [isAttractorPattern, isFixedPointPattern, Bool.false_eq_true, if_false, nodeBody]
      cases evalNode E steady c U ctx <;> rfl
    | bin o l r =>
      simp only [isAttractorPattern, isFixedPointPattern, Bool.false_eq_true, if_false, nodeBody]
      cases evalNode E steady l U ctx with
      | error f => rfl
      | ok x =>
        obtain ⟨lr, ctx1⟩ := x
        simp only
        cases evalNode E steady r U ctx1 <;> rfl
    | hyb op v dom c =>
      simp only [nodeBody]
      -- `by_cases` + `rw`: `split` on the `if`s of a goal of this size is slow to check
      by_cases hpa : isAttractorPattern (.hyb op v dom c) = true
      · rw [if_pos hpa, if_pos hpa]; rfl
      rw [if_neg hpa, if_neg hpa]
      by_cases hpf : isFixedPointPattern (.hyb op v dom c) = true
      · rw [if_pos hpf, if_pos hpf]; rfl
      rw [if_neg hpf, if_neg hpf]
      by_cases hj : op = .jump
      · simp only [hj, if_true]
        cases evalNode E steady c U ctx with
        | error f => rfl
        | ok x => simp only; split <;> rfl
      simp only [hj, if_false]
      cases dom with
      | none =>
        cases evalNode E steady c U { ctx with fvd := domInsert v none ctx.fvd } with
        | error f => rfl
        | ok x => simp only; split <;> rfl
      | some d =>
        simp only
        cases ctx.domRaw.lookup d with
        | none => rfl
        | some domSet =>
          simp only
          split
          · rfl
          split
          · cases op <;> rfl
          cases evalNode E steady c (E.tab (U.inter (E.tab (Ops.validDomain E U domSet (varId v)))))
              { ctx with fvd := domInsert v (some d) ctx.fvd } <;> rfl

end Hctl.Eval
