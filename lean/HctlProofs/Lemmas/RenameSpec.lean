/-
  Preprocessing (`validate_and_rename_recursive`). Acceptance is `Scoped`; the accepted result is the input's de Bruijn
  form with every binder named by its depth (`Renamed.spec`, `rename_eq_fromDB`), the invariant of the run being that
  the scope map's values are `names d = [x^d, …, x^1]`.
-/
import HctlProofs.Lemmas.Scoping
import HctlProofs.Lemmas.Assoc
import HctlProofs.Lemmas.LexChars
namespace Hctl

/-! The accepting runs of `renameRec` as a relation: each case comes with its lookups and calls resolved. -/

inductive Renamed (isNetVar : Name → Bool) : Tree → RenMap → Name → Tree → Prop
  | var {x r m last} : m.lookup x = some r → Renamed isNetVar (.atom (.var x)) m last (.atom (.var r))
  | prop {n m last} : isNetVar n = true → Renamed isNetVar (.atom (.prop n)) m last (.atom (.prop n))
  | tt {m last} : Renamed isNetVar (.atom .tt) m last (.atom .tt)
  | ff {m last} : Renamed isNetVar (.atom .ff) m last (.atom .ff)
  | wild {w m last} : Renamed isNetVar (.atom (.wild w)) m last (.atom (.wild w))
  | un {o c c' m last} : Renamed isNetVar c m last c' → Renamed isNetVar (.un o c) m last (.un o c')
  | bin {o l r l' r' m last} : Renamed isNetVar l m last l' → Renamed isNetVar r m last r' →
      Renamed isNetVar (.bin o l r) m last (.bin o l' r')
  | jump {x r d c c' m last} : m.lookup x = some r → Renamed isNetVar c m last c' →
      Renamed isNetVar (.hyb .jump x d c) m last (.hyb .jump r d c')
  | quant {o x d c c' m last} : o ≠ .jump → m.lookup x = none →
      Renamed isNetVar c ((x, last ++ ['x']) :: m) (last ++ ['x']) c' →
      Renamed isNetVar (.hyb o x d c) m last (.hyb o (last ++ ['x']) d c')

theorem Renamed.of_ok {isNetVar : Name → Bool} {t : Tree} {m : RenMap} {last : Name} {t' : Tree}
    (h : renameRec isNetVar t m last = .ok t') : Renamed isNetVar t m last t' := by
  -- `cases h` closes the rejecting branches and puts the result in place in the seven accepting ones
  fun_induction renameRec isNetVar t m last generalizing t' <;> cases h
  case case1 hl => exact .var hl
  case case3 hn => exact .prop hn
  case case5 a _ _ hv hp =>
    cases a with
    | var n => exact (hv n rfl).elim
    | prop n => exact (hp n rfl).elim
    | tt => exact .tt
    | ff => exact .ff
    | wild w => exact .wild
  case case6 hc ih => exact .un (ih hc)
  case case10 hl _ hr ihl ihr => exact .bin (ihl hl) (ihr hr)
  case case13 hc _ hl ih => exact .jump hl (ih hc)
  case case16 hj hl _ _ hc ih => exact .quant hj (Option.not_isSome_iff_eq_none.mp hl) (ih hc)

def names : Nat → List Name
  | 0 => []
  | d + 1 => xs (d + 1) :: names d

theorem mem_names {d : Nat} {y : Name} : y ∈ names d ↔ ∃ i, i < d ∧ y = xs (i + 1) := by
  induction d with
  | zero => simp [names]
  | succ d ih =>
    simp only [names, List.mem_cons, ih]
    constructor
    · rintro (rfl | ⟨i, hi, rfl⟩)
      · exact ⟨d, Nat.lt_succ_self d, rfl⟩
      · exact ⟨i, Nat.lt_succ_of_lt hi, rfl⟩
    · rintro ⟨i, hi, rfl⟩
      by_cases h : i = d
      · exact Or.inl (h ▸ rfl)
      · exact Or.inr ⟨i, by omega, rfl⟩

theorem xs_mem_names {d n : Nat} : xs (n + 1) ∈ names d ↔ n < d := by
  rw [mem_names]
  constructor
  · rintro ⟨i, hi, h⟩
    have := xs_inj h
    omega
  · exact fun h => ⟨n, h, rfl⟩

theorem names_nodup (d : Nat) : (names d).Nodup := by
  induction d with
  | zero => simp [names]
  | succ d ih => exact List.nodup_cons.mpr ⟨fun h => Nat.lt_irrefl d (xs_mem_names.mp h), ih⟩

theorem names_length (n : Nat) : (names n).length = n := by
  induction n with
  | zero => rfl
  | succ n ih => simp [names, ih]

theorem Renamed.scoped {f : Name → Bool} {t t' : Tree} {m : RenMap} {last : Name}
    (h : Renamed f t m last t') : Scoped f (m.map Prod.fst) t := by
  induction h with
  | var hl => exact lookup_isSome_iff_mem_keys.mp (by simp [hl])
  | prop hn => exact hn
  | tt | ff | wild => trivial
  | un _ ih => exact ih
  | bin _ _ ihl ihr => exact ⟨ihl, ihr⟩
  | jump hx _ ih => exact ⟨lookup_isSome_iff_mem_keys.mp (by simp [hx]), ih⟩
  | quant hj hx _ ih =>
    simp only [Scoped, hj, if_false]
    exact ⟨lookup_eq_none_iff_not_mem_keys.mp hx, ih⟩

/-- every rejecting branch of `renameRec` contradicts a scope rule -/
theorem renameRec_ok_of_scoped (f : Name → Bool) : ∀ t m last, Scoped f (m.map Prod.fst) t →
    ∃ t', renameRec f t m last = .ok t' := by
  intro t m last h
  fun_induction renameRec f t m last
  case case1 | case3 | case5 | case6 | case10 | case13 | case16 => exact ⟨_, rfl⟩
  case case2 hl => exact absurd h (lookup_eq_none_iff_not_mem_keys.mp hl)
  case case4 hn => exact absurd h hn
  case case7 he ih => obtain ⟨_, h'⟩ := ih h; cases he.symm.trans h'
  case case8 he ih => obtain ⟨_, h'⟩ := ih h.1; cases he.symm.trans h'
  case case9 _ _ he _ ih => obtain ⟨_, h'⟩ := ih h.2; cases he.symm.trans h'
  case case11 he ih => obtain ⟨_, h'⟩ := ih h.2; cases he.symm.trans h'
  case case12 _ hl _ => exact absurd h.1 (lookup_eq_none_iff_not_mem_keys.mp hl)
  case case14 hj hs =>
    simp only [Scoped, hj, if_false] at h
    exact absurd (lookup_isSome_iff_mem_keys.mp hs) h.1
  case case15 hj _ _ _ he ih =>
    simp only [Scoped, hj, if_false] at h
    obtain ⟨_, h'⟩ := ih h.2
    cases he.symm.trans h'

theorem idxIn_eq_none_iff {x : Name} {l : List Name} : idxIn x l = none ↔ x ∉ l := by
  induction l with
  | nil => simp [idxIn]
  | cons y ys ih =>
    by_cases h : x = y
    · simp [idxIn, h]
    · simp [idxIn, h, ih]

theorem idxIn_of_lookup (m : RenMap) (x r : Name) (h : m.lookup x = some r) (hnd : (m.map Prod.snd).Nodup) :
    ∃ i, idxIn x (m.map Prod.fst) = some i ∧ idxIn r (m.map Prod.snd) = some i := by
  induction m with
  | nil => simp at h
  | cons e m ih =>
    obtain ⟨k, v⟩ := e
    simp only [List.map_cons, List.nodup_cons] at hnd
    simp only [List.lookup_cons] at h
    by_cases hk : x = k
    · obtain rfl : v = r := by simpa [hk] using h
      exact ⟨0, by simp [idxIn, hk], by simp [idxIn]⟩
    · simp only [beq_eq_false_iff_ne.mpr hk] at h
      obtain ⟨i, h1, h2⟩ := ih h hnd.2
      have hrv : r ≠ v := fun hh => hnd.1 (hh ▸ mem_vals_of_lookup h)
      exact ⟨i + 1, by simp [idxIn, hk, h1], by simp [idxIn, hrv, h2]⟩

theorem lookup_names {m : RenMap} {x r : Name} {d : Nat} (hm : m.map Prod.snd = names d) (hl : m.lookup x = some r) :
    r ∈ names d ∧ dvar (m.map Prod.fst) x = dvar (names d) r := by
  obtain ⟨i, h1, h2⟩ := idxIn_of_lookup m x r hl (hm ▸ names_nodup d)
  exact ⟨hm ▸ mem_vals_of_lookup hl, by simp only [dvar, h1, ← hm, h2]⟩

theorem Renamed.spec {isNetVar : Name → Bool} {t t' : Tree} {m : RenMap} {last : Name}
    (h : Renamed isNetVar t m last t') : ∀ {d}, last = xs d → m.map Prod.snd = names d →
      DepthNamed d t' ∧ toDB (m.map Prod.fst) t = toDB (names d) t' ∧ Scoped isNetVar (names d) t' := by
  induction h with
  | var hl =>
    intro d _ hm
    obtain ⟨hr, hd⟩ := lookup_names hm hl
    exact ⟨mem_names.mp hr, congrArg DBT.var hd, hr⟩
  | prop hn => intro d _ _; exact ⟨trivial, rfl, hn⟩
  | tt | ff | wild => intro d _ _; exact ⟨trivial, rfl, trivial⟩
  | un _ ih => intro d hl hm; simpa only [DepthNamed, toDB, Scoped, DBT.un.injEq, true_and] using ih hl hm
  | bin _ _ ihl ihr =>
    intro d hl hm
    obtain ⟨l1, l2, l3⟩ := ihl hl hm
    obtain ⟨r1, r2, r3⟩ := ihr hl hm
    exact ⟨⟨l1, r1⟩, by simp only [toDB, l2, r2], l3, r3⟩
  | jump hx _ ih =>
    intro d hl hm
    obtain ⟨c1, c2, c3⟩ := ih hl hm
    obtain ⟨hr, hd⟩ := lookup_names hm hx
    simp only [DepthNamed, toDB, Scoped, if_true]
    exact ⟨⟨mem_names.mp hr, c1⟩, by rw [c2, hd], hr, c3⟩
  | @quant o x _ _ _ m last hj _ _ ih =>
    intro d hl hm
    subst hl
    rw [xs_succ] at ih ⊢
    obtain ⟨c1, c2, c3⟩ := @ih (d + 1) rfl (by simp only [List.map_cons, hm, names])
    simp only [DepthNamed, toDB, Scoped, hj, if_false, true_and, DBT.quant.injEq]
    exact ⟨c1, c2, fun hmem => Nat.lt_irrefl d (xs_mem_names.mp hmem), c3⟩

theorem rename_spec {isNetVar : Name → Bool} {t t' : Tree} (h : rename isNetVar t = .ok t') :
    DepthNamed 0 t' ∧ toDB [] t = toDB [] t' ∧ Scoped isNetVar [] t' :=
  (Renamed.of_ok h).spec (d := 0) rfl rfl

theorem Renamed.plain {isNetVar : Name → Bool} {t t' : Tree} {m : RenMap} {last : Name}
    (h : Renamed isNetVar t m last t') (hp : Plain t) : Plain t' := by
  induction h with
  | var | prop | tt | ff => trivial
  | wild => exact hp
  | un _ ih => exact ih hp
  | bin _ _ ihl ihr => exact ⟨ihl hp.1, ihr hp.2⟩
  | jump _ _ ih => exact ⟨hp.1, ih hp.2⟩
  | quant _ _ _ ih => exact ⟨hp.1, ih hp.2⟩

theorem Renamed.propsOK {isNetVar : Name → Bool} {t t' : Tree} {m : RenMap} {last : Name}
    (h : Renamed isNetVar t m last t') : C07.PropsOK isNetVar t' := by
  induction h with
  | prop hn => exact hn
  | var | tt | ff | wild => trivial
  | un _ ih => exact ih
  | bin _ _ ihl ihr => exact ⟨ihl, ihr⟩
  | jump _ _ ih => exact ih
  | quant _ _ _ ih => exact ih

theorem Renamed.treeOK {K : CharClass} (hK : Lex.CharsOK K) {f : Name → Bool} {t t' : Tree} {m : RenMap}
    {last : Name} (h : Renamed f t m last t') : Lex.TreeOK K t ∧ PropNamesOK t →
      (∀ e ∈ m, Lex.ValidId K e.2) → (∀ c ∈ last, c = 'x') → Lex.TreeOK K t' ∧ PropNamesOK t' := by
  induction h with
  | var hx => intro _ hm _; exact ⟨hm _ (mem_of_lookup hx), trivial⟩
  | prop | tt | ff | wild => intro ht _ _; exact ht
  | un _ ih => exact ih
  | bin _ _ ihl ihr =>
    intro ht hm hl
    have a := ihl ⟨ht.1.1, ht.2.1⟩ hm hl
    have b := ihr ⟨ht.1.2, ht.2.2⟩ hm hl
    exact ⟨⟨a.1, b.1⟩, a.2, b.2⟩
  | jump hx _ ih =>
    intro ht hm hl
    have a := ih ⟨ht.1.2.2, ht.2⟩ hm hl
    exact ⟨⟨hm _ (mem_of_lookup hx), ht.1.2.1, a.1⟩, a.2⟩
  | @quant _ _ _ _ _ m last _ _ _ ih =>
    intro ht hm hl
    have hx : ∀ c ∈ last ++ ['x'], c = 'x' := List.forall_mem_append.mpr ⟨hl, List.forall_mem_singleton.mpr rfl⟩
    have hlast : Lex.ValidId K (last ++ ['x']) :=
      ⟨by simp, fun c hc => hx c hc ▸ Lex.letter_name hK (by decide)⟩
    have a := ih ⟨ht.1.2.2, ht.2⟩ (List.forall_mem_cons.mpr ⟨hlast, hm⟩) hx
    exact ⟨⟨hlast, ht.1.2.1, a.1⟩, a.2⟩

theorem rename_treeOK {K : CharClass} (hK : Lex.CharsOK K) (f : Name → Bool) (t t' : Tree)
    (ht : Lex.TreeOK K t ∧ PropNamesOK t) (h : rename f t = .ok t') : Lex.TreeOK K t' ∧ PropNamesOK t' :=
  (Renamed.of_ok h).treeOK hK ht (by simp) (by simp)

/-- `bound i` counts binders from the innermost one, as `idxIn` does in `names d`: it is `x^(d-i)` -/
def DVar.name (d : Nat) : DVar → Name
  | .bound i => xs (d - i)
  | .free x => x

/-- name the binders by their depth: the inverse of `toDB (names d)` on depth-named trees -/
def fromDB : Nat → DBT → Tree
  | _, .atom a => .atom a
  | d, .var v => .atom (.var (v.name d))
  | d, .un o c => .un o (fromDB d c)
  | d, .bin o l r => .bin o (fromDB d l) (fromDB d r)
  | d, .jump v dom c => .hyb .jump (v.name d) dom (fromDB d c)
  | d, .quant o dom c => .hyb o (xs (d + 1)) dom (fromDB (d + 1) c)

theorem idxIn_names {d i : Nat} (hi : i < d) : idxIn (xs (i + 1)) (names d) = some (d - 1 - i) := by
  induction d with
  | zero => omega
  | succ d ih =>
    simp only [names, idxIn]
    by_cases h : i = d
    · subst h; simp
    · have hne : xs (i + 1) ≠ xs (d + 1) := fun hh => h (by have := xs_inj hh; omega)
      simp only [hne, if_false, ih (by omega), Option.map_some, Option.some.injEq]
      omega

theorem dvar_names_name {d i : Nat} (hi : i < d) : (dvar (names d) (xs (i + 1))).name d = xs (i + 1) := by
  simp only [dvar, idxIn_names hi, DVar.name]
  congr 1
  omega

theorem fromDB_toDB : ∀ {t d}, DepthNamed d t → fromDB d (toDB (names d) t) = t := by
  intro t
  induction t with
  | atom a =>
    intro d h
    cases a with
    | var x =>
      obtain ⟨i, hi, rfl⟩ := h
      simp only [toDB, fromDB, dvar_names_name hi]
    | _ => rfl
  | un o c ih => intro d h; simp only [toDB, fromDB, ih h]
  | bin o l r ihl ihr => intro d h; simp only [toDB, fromDB, ihl h.1, ihr h.2]
  | hyb o x dom c ih =>
    intro d h
    simp only [DepthNamed, toDB] at h ⊢
    by_cases hj : o = .jump
    · simp only [hj, if_true] at h ⊢
      obtain ⟨⟨i, hi, rfl⟩, hc⟩ := h
      simp only [fromDB, dvar_names_name hi, ih hc]
    · simp only [hj, if_false] at h ⊢
      obtain ⟨rfl, hc⟩ := h
      simp only [fromDB]
      rw [show xs (d + 1) :: names d = names (d + 1) from rfl, ih hc]

theorem rename_eq_fromDB {isNetVar : Name → Bool} {t t' : Tree} (h : rename isNetVar t = .ok t') :
    t' = fromDB 0 (toDB [] t) := by
  obtain ⟨hn, ha, _⟩ := rename_spec h
  exact (ha ▸ fromDB_toDB hn).symm

theorem insertUniq_names {d n : Nat} (hd : d ≤ n) :
    insertUniq (xs (d + 1)) (names n).reverse = (names (max n (d + 1))).reverse := by
  by_cases hn : d < n
  · simp [insertUniq, xs_mem_names, hn, Nat.max_eq_left (Nat.succ_le_of_lt hn)]
  · obtain rfl : d = n := by omega
    simp [insertUniq, xs_mem_names, names]

theorem quantVars_names : ∀ t d n, DepthNamed d t → d ≤ n →
    t.quantVars (names n).reverse = (names (max n (d + t.depth))).reverse := by
  intro t
  induction t with
  | atom a => intro d n _ hd; simp [Tree.quantVars, Tree.depth, Nat.max_eq_left hd]
  | un o c ih => intro d n h hd; exact ih d n h hd
  | bin o l r ihl ihr =>
    intro d n h hd
    simp only [Tree.quantVars, Tree.depth]
    rw [ihl d n h.1 hd, ihr d _ h.2 (Nat.le_trans hd (Nat.le_max_left ..)), Nat.max_assoc, Nat.add_max_add_left]
  | hyb o x dom c ih =>
    intro d n h hd
    simp only [DepthNamed, Tree.quantVars, Tree.depth] at h ⊢
    by_cases hj : o = .jump
    · simp only [hj, if_true] at h ⊢
      exact ih d n h.2 hd
    · simp only [hj, if_false] at h ⊢
      obtain ⟨rfl, hc⟩ := h
      rw [insertUniq_names hd, ih (d + 1) _ hc (Nat.le_max_right ..), Nat.max_assoc,
        Nat.max_eq_right (Nat.le_add_right ..), Nat.add_assoc, Nat.add_comm 1]

theorem numQuantVars_eq_depth (t : Tree) (h : DepthNamed 0 t) : t.numQuantVars = t.depth := by
  have := quantVars_names t 0 0 h (Nat.le_refl 0)
  simp only [names, List.reverse_nil] at this
  simp [Tree.numQuantVars, this, names_length]

theorem lookup_none_idx (m : RenMap) (x : Name) (h : m.lookup x = none) : idxIn x (m.map Prod.fst) = none :=
  idxIn_eq_none_iff.mpr ((lookup_eq_none_iff_not_mem_keys).mp h)

def MapNamed (m : RenMap) (d : Nat) : Prop := ∀ x r, m.lookup x = some r → ∃ i, i < d ∧ r = xs (i + 1)

def MapVals (m : RenMap) (d : Nat) : Prop := ∀ r, r ∈ m.map Prod.snd → ∃ i, i < d ∧ r = xs (i + 1)

theorem MapVals.named {m : RenMap} {d : Nat} (h : MapVals m d) : MapNamed m d :=
  fun _ r hl => h r (mem_vals_of_lookup hl)

end Hctl
