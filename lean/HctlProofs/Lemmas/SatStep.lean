/-
  `sat` one operator at a time: the meaning of an operator as a function of the satisfaction sets of the children,
  read along the state axis (`stepUn`, `stepBin`) or along one variable axis (`stepHyb`).  With `sat_un`, `sat_bin`,
  `sat_hyb` every congruence property of `sat` is an induction whose operator cases are these three rewrites.
-/
import HctlProofs.Spec.Semantics
namespace Hctl
open Kripke

def stepUn (r : Nat → Nat → Prop) (o : UnOp) (X : Nat → Prop) (s : Nat) : Prop :=
  match o with
  | .not => ¬ X s
  | .ex => ∃ t, r s t ∧ X t
  | .ax => ∀ t, r s t → X t
  | .ef => ∃ π : Path r s, ∃ i, X (π.π i)
  | .af => ∀ π : Path r s, ∃ i, X (π.π i)
  | .eg => ∃ π : Path r s, ∀ i, X (π.π i)
  | .ag => ∀ π : Path r s, ∀ i, X (π.π i)

def stepBin (r : Nat → Nat → Prop) (o : BinOp) (X Y : Nat → Prop) (s : Nat) : Prop :=
  match o with
  | .and => X s ∧ Y s
  | .or => X s ∨ Y s
  | .xor => ¬ (X s ↔ Y s)
  | .imp => X s → Y s
  | .iff => (X s ↔ Y s)
  | .eu => ∃ π : Path r s, untilOn X Y π.π
  | .au => ∀ π : Path r s, untilOn X Y π.π
  | .ew => ∃ π : Path r s, untilOn X Y π.π ∨ ∀ i, X (π.π i)
  | .aw => ∀ π : Path r s, untilOn X Y π.π ∨ ∀ i, X (π.π i)

/-- `D t`: state `t` is in the domain; `J`: the child at the jump target; `B t`: the child with the variable at `t` -/
def stepHyb (nS : Nat) (o : HybOp) (D : Nat → Prop) (J : Prop) (B : Nat → Prop) (s : Nat) : Prop :=
  match o with
  | .bind => D s ∧ B s
  | .jump => J
  | .ex => ∃ t, t < nS ∧ D t ∧ B t
  | .all => ∀ t, t < nS → D t → B t

theorem sat_un (G : Graph) (K : SemCtx) (o : UnOp) (φ : Tree) (p : Point) :
    sat G K (.un o φ) p ↔ stepUn (G.R p.c) o (fun t => sat G K φ (p.setS t)) p.s := by
  cases o <;> exact Iff.rfl

theorem sat_bin (G : Graph) (K : SemCtx) (o : BinOp) (φ ψ : Tree) (p : Point) :
    sat G K (.bin o φ ψ) p ↔
      stepBin (G.R p.c) o (fun t => sat G K φ (p.setS t)) (fun t => sat G K ψ (p.setS t)) p.s := by
  cases o <;> exact Iff.rfl

theorem sat_hyb (G : Graph) (K : SemCtx) (o : HybOp) (x : Name) (d : Option Name) (φ : Tree) (p : Point) :
    sat G K (.hyb o x d φ) p ↔
      stepHyb G.nS o (fun t => inDom K d (p.setS t)) (sat G K φ (p.setS (p.getV (varId x))))
        (fun t => sat G K φ (p.setV (varId x) t)) p.s := by
  cases o <;> exact Iff.rfl

/-! The children need to agree only on a set `I` of states closed under the relation. -/

theorem Path.mem_of_closed {r : Nat → Nat → Prop} {I : Nat → Prop} (hI : ∀ x y, I x → r x y → I y) {s : Nat}
    (hs : I s) (π : Path r s) : ∀ i, I (π.π i)
  | 0 => by rw [π.h0]; exact hs
  | i + 1 => hI _ _ (Path.mem_of_closed hI hs π i) (π.hstep i)

theorem untilOn_congr {X X' Y Y' : Nat → Prop} {π : Nat → Nat} (hX : ∀ i, X (π i) ↔ X' (π i))
    (hY : ∀ i, Y (π i) ↔ Y' (π i)) : untilOn X Y π ↔ untilOn X' Y' π :=
  exists_congr fun i => and_congr (hY i) (forall_congr' fun j => imp_congr_right fun _ => hX j)

theorem stepUn_congr_on {r : Nat → Nat → Prop} {I : Nat → Prop} (hI : ∀ x y, I x → r x y → I y) (o : UnOp)
    {X X' : Nat → Prop} {s : Nat} (hs : I s) (h : ∀ t, I t → (X t ↔ X' t)) :
    stepUn r o X s ↔ stepUn r o X' s := by
  have hπ := fun π : Path r s => Path.mem_of_closed hI hs π
  cases o with
  | not => exact not_congr (h s hs)
  | ex => exact exists_congr fun t => and_congr_right fun hR => h t (hI s t hs hR)
  | ax => exact forall_congr' fun t => imp_congr_right fun hR => h t (hI s t hs hR)
  | ef => exact exists_congr fun π => exists_congr fun i => h _ (hπ π i)
  | af => exact forall_congr' fun π => exists_congr fun i => h _ (hπ π i)
  | eg => exact exists_congr fun π => forall_congr' fun i => h _ (hπ π i)
  | ag => exact forall_congr' fun π => forall_congr' fun i => h _ (hπ π i)

theorem stepBin_congr_on {r : Nat → Nat → Prop} {I : Nat → Prop} (hI : ∀ x y, I x → r x y → I y) (o : BinOp)
    {X X' Y Y' : Nat → Prop} {s : Nat} (hs : I s) (hX : ∀ t, I t → (X t ↔ X' t)) (hY : ∀ t, I t → (Y t ↔ Y' t)) :
    stepBin r o X Y s ↔ stepBin r o X' Y' s := by
  have hu := fun π : Path r s => untilOn_congr (π := π.π) (fun i => hX _ (Path.mem_of_closed hI hs π i))
    (fun i => hY _ (Path.mem_of_closed hI hs π i))
  have hg := fun π : Path r s => forall_congr' fun i => hX _ (Path.mem_of_closed hI hs π i)
  cases o with
  | and => exact and_congr (hX s hs) (hY s hs)
  | or => exact or_congr (hX s hs) (hY s hs)
  | xor => exact not_congr (iff_congr (hX s hs) (hY s hs))
  | imp => exact imp_congr (hX s hs) (hY s hs)
  | iff => exact iff_congr (hX s hs) (hY s hs)
  | eu => exact exists_congr hu
  | au => exact forall_congr' hu
  | ew => exact exists_congr fun π => or_congr (hu π) (hg π)
  | aw => exact forall_congr' fun π => or_congr (hu π) (hg π)

theorem stepUn_congr {r : Nat → Nat → Prop} (o : UnOp) {X X' : Nat → Prop} (s : Nat) (h : ∀ t, X t ↔ X' t) :
    stepUn r o X s ↔ stepUn r o X' s :=
  stepUn_congr_on (I := fun _ => True) (fun _ _ _ _ => trivial) o trivial fun t _ => h t

theorem stepBin_congr {r : Nat → Nat → Prop} (o : BinOp) {X X' Y Y' : Nat → Prop} (s : Nat)
    (hX : ∀ t, X t ↔ X' t) (hY : ∀ t, Y t ↔ Y' t) : stepBin r o X Y s ↔ stepBin r o X' Y' s :=
  stepBin_congr_on (I := fun _ => True) (fun _ _ _ _ => trivial) o trivial (fun t _ => hX t) (fun t _ => hY t)

theorem stepHyb_congr {nS : Nat} (o : HybOp) {D D' : Nat → Prop} {J J' : Prop} {B B' : Nat → Prop} (s : Nat)
    (hD : ∀ t, D t ↔ D' t) (hJ : o = .jump → (J ↔ J')) (hB : o ≠ .jump → ∀ t, B t ↔ B' t) :
    stepHyb nS o D J B s ↔ stepHyb nS o D' J' B' s := by
  rw [show D = D' from funext fun t => propext (hD t)]
  cases o with
  | jump => exact hJ rfl
  | bind | ex | all =>
    rw [show B = B' from funext fun t => propext (hB nofun t)]
    exact Iff.rfl

theorem inDom_some {K : SemCtx} {l : Name} {ds : CSet} (hl : K.dom l = some ds) (q : Point) :
    inDom K (some l) q ↔ ds q = true := by
  simp only [inDom, hl, Option.some.injEq, exists_eq_left']

theorem inDom_congr_of {K : SemCtx} (d : Option Name) {q q' : Point}
    (h : ∀ l a, K.dom l = some a → a q = a q') : inDom K d q ↔ inDom K d q' := by
  cases d with
  | none => exact Iff.rfl
  | some l => exact exists_congr fun a => and_congr_right fun ha => by rw [h l a ha]

end Hctl
