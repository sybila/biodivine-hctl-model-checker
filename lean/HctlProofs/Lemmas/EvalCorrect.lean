/-
  The cache-free evaluator computes exactly the satisfying points (`evalPure_correct`); its top-level instance
  `evalTop_correct`, with the valid colours as admissible unit at depth 0, and what the property files share.
-/
import HctlProofs.Lemmas.NodeSem
import HctlProofs.Lemmas.SatCongr
namespace Hctl

section main
variable {E : Env} (hE : EnvOK E) (hG : GraphWF E.G)
include hE hG

/-- C01/C02: for every well-named formula and admissible unit set the cache-free evaluator returns exactly the unit
points that satisfy the formula. -/
theorem evalPure_correct (K : SemCtx) (hK : CtxOK E K) (U0 st : CSet) :
    ∀ t d U, WellNamed E.G.k d t → DomsIn K t → UnitOK E U0 st U d →
      Sem E (Eval.evalPure E st K.wild K.dom t U) U (sat E.G K t) := by
  intro t
  induction t with
  | atom a =>
    intro d U _ _ hU p hp
    cases a with
    | tt => simp [Eval.evalPure, sat]
    | ff => simp [Eval.evalPure, sat, CSet.empty]
    | var n =>
      simp only [Eval.evalPure, sat, Ops.comparatorVarState, Bool.and_eq_true, beq_iff_eq]
    | prop n =>
      simp only [Eval.evalPure, sat]
      cases hl : E.G.label n with
      | none => simp [CSet.empty]
      | some f =>
        simp only [Ops.evalProp, Bool.and_eq_true, Option.some.injEq, exists_eq_left']
        exact and_comm
    | wild w =>
      simp only [Eval.evalPure, sat]
      cases hw : K.wild w with
      | none => simp [CSet.empty]
      | some a =>
        simp only [CSet.mem_inter, Option.some.injEq, exists_eq_left']
        exact and_comm
  | un o c ih =>
    intro d U hw hd hU
    exact Sem.tab hE (sem_evalUn hE hG K hU o c (ih d U hw hd hU))
  | bin o l r ihl ihr =>
    intro d U hw hd hU
    exact Sem.tab hE (sem_evalBin hE hG K hU o l r (ihl d U hw.1 hd.1 hU) (ihr d U hw.2 hd.2 hU))
  | hyb op v dom c ih =>
    intro d U hw hd hU
    by_cases hj : op = .jump
    · subst hj
      exact Sem.tab hE (sem_jump hE hU (ih d U hw hd.body hU) (varId v))
    · simp only [WellNamed, hj, if_false] at hw
      obtain ⟨rfl, hdk, hwc⟩ := hw
      simp only [Eval.evalPure, hj, if_false]
      cases dom with
      | none =>
        exact Sem.tab hE (sem_quantNoDom hE K hK hU op hj v rfl hdk c (ih _ U hwc hd hU.weaken))
      | some l =>
        obtain ⟨⟨ds, hl⟩, hdc⟩ := hd
        simp only [hl]
        -- the child is evaluated where variable `d` lies in the domain
        have hmem := fun q hq => mem_restrictedUnit hE (ds := ds) hU (q := q) hq
        exact Sem.tab hE (sem_quantDom hE K hK hU op hj v l hl rfl hdk c hmem
          (ih _ _ hwc hdc (hU.restrict hE K hK hl hmem)))

end main

theorem unitOK_unit0 (E : Env) : UnitOK E E.G.unit0 (Ops.steadyOf E E.G.unit0) E.G.unit0 0 :=
  ⟨fun _ _ => mem_steadyOf, fun _ _ _ _ => rfl, fun _ _ _ _ _ _ => rfl, fun _ _ h => h⟩

theorem evalTop_correct {E : Env} (hE : EnvOK E) (hG : GraphWF E.G) (K : SemCtx) (hK : CtxOK E K)
    (t : Tree) (hw : WellNamed E.G.k 0 t) (hd : DomsIn K t) :
    ∀ p ∈ E.pts, (evalTop E K t p = true ↔ (E.G.valid p.c = true ∧ sat E.G K t p)) :=
  evalPure_correct hE hG K hK E.G.unit0 _ t 0 E.G.unit0 hw hd (unitOK_unit0 E)

theorem Sem.indep_spare {E : Env} (hE : EnvOK E) {K : SemCtx} (hSC : CtxSC K) {t : Tree}
    (hw : WellScoped E.G.k 0 t) {r : CSet} (hr : Sem E r E.G.unit0 (sat E.G K t)) {s c : Nat} {v v' : List Nat}
    (hp : (⟨s, c, v⟩ : Point) ∈ E.pts) (hp' : (⟨s, c, v'⟩ : Point) ∈ E.pts) : r ⟨s, c, v⟩ = r ⟨s, c, v'⟩ :=
  hr.eq_at hr hp hp' rfl fun _ => sat_valuation_agree E.G K hSC E.G.k t 0 s c v v' hw
    (Nat.le_of_eq (hE.len_v hp).symm) (Nat.le_of_eq (hE.len_v hp').symm) (fun _ hi => nomatch hi)

end Hctl
