/-
  `mark_duplicates`. One invariant of the traversal (`Marked`) says which keys end up in the duplicate map; for
  preprocessed, valid formulae it gives the field `dupsOK` of the cache invariant (`markDups_witness`). A quantity that
  never grows (`pot`) bounds the counters by the number of occurrences (`markDups_count`).  All of it holds for any
  fuel of `markLoop`; that `maxHeight + 2` (a level per height, and one to spare) suffices is not proved.
-/
import HctlProofs.Lemmas.CacheDefs
import HctlProofs.Lemmas.CacheBasics
namespace Hctl

def dupVal (dups : DupMap) (key : Key) : Int := (dupGet key dups).getD 0

theorem dupGet_nil (k : Key) : dupGet k [] = none := rfl

/-- `insert(key, duplicates[key] + 1)` / `insert(key, 1)` -/
theorem dupGet_dupIncr (k k' : Key) (d : DupMap) :
    dupGet k' (dupIncr k d) = if k' = k then some (dupVal d k + 1) else dupGet k' d := by
  induction d with
  | nil => simp [dupIncr, dupGet_cons, dupVal, dupGet_nil]
  | cons e d ih =>
    obtain ⟨k0, m0⟩ := e
    by_cases hk : k = k0
    · subst hk
      by_cases hk' : k' = k <;> simp [dupIncr, dupGet_cons, dupVal, hk']
    · have hk0 : k0 ≠ k := fun h => hk h.symm
      by_cases hk' : k' = k0
      · simp [dupIncr, hk, dupGet_cons, hk', hk0]
      · simp [dupIncr, hk, dupGet_cons, hk', ih, dupVal]

/-- `L`: a set of nodes closed under `childrenWithDoms` (`hL` below) -/
def Marked (L : Tree × DomMap → Prop) (dups : DupMap) : Prop :=
  ∀ key n, dupGet key dups = some n → 1 ≤ n ∧ ∃ e, L e ∧ (keyOf e.1 e.2).1 = key ∧ (keyOf e.1 e.2).2.length ≤ 1

section marked
variable {L : Tree × DomMap → Prop}

theorem Marked.dupVal_nonneg {dups : DupMap} (h : Marked L dups) (key : Key) : 0 ≤ dupVal dups key := by
  unfold dupVal
  cases hg : dupGet key dups with
  | none => simp
  | some n => have := (h key n hg).1; simp; omega

variable (hL : ∀ t doms, L (t, doms) → ∀ e ∈ childrenWithDoms t doms, L e)
include hL

theorem processLevel_marked (cur : List (Tree × DomMap)) (seen : List Key) (dups : DupMap) (kids : List (Tree × DomMap))
    (hc : ∀ e ∈ cur, L e) (hd : Marked L dups) (hk : ∀ e ∈ kids, L e) :
    Marked L (processLevel cur seen dups kids).1 ∧ ∀ e ∈ (processLevel cur seen dups kids).2, L e := by
  fun_induction processLevel cur seen dups kids with
  | case1 seen dups kids => exact ⟨hd, hk⟩
  | case2 t doms rest seen dups kids hterm ih =>
    exact ih (fun e he => hc e (by simp [he])) hd hk
  | case3 t doms rest seen dups kids hterm key ren hkey hdup ih =>
    -- a duplicate on this level: its counter goes up, its children are not visited
    refine ih (fun e he => hc e (by simp [he])) ?_ hk
    intro k' n' hg
    rw [dupGet_dupIncr] at hg
    split at hg
    · next hk' =>
      cases hg
      have := hd.dupVal_nonneg key
      simp only [Bool.and_eq_true, decide_eq_true_eq] at hdup
      exact ⟨by omega, (t, doms), hc _ (by simp), by simp [hkey, hk'], by simp [hkey, hdup.1]⟩
    · exact hd k' n' hg
  | case4 t doms rest seen dups kids hterm key ren hkey hdup ih =>
    -- first of its key on this level: remembered, its children pushed
    refine ih (fun e he => hc e (by simp [he])) hd ?_
    intro e he
    rcases List.mem_append.mp he with he | he
    · exact hk e he
    · exact hL t doms (hc _ (by simp)) e he

theorem markLoop_marked : ∀ (n : Nat) (pending : List (Tree × DomMap)) (dups : DupMap),
    (∀ e ∈ pending, L e) → Marked L dups → Marked L (markLoop n pending dups) := by
  intro n
  induction n with
  | zero => intro pending dups _ hd; exact hd
  | succ n ih =>
    intro pending dups hp hd
    rw [markLoop]
    split
    · exact hd
    · have := processLevel_marked hL (pending.filter (fun e => e.1.height == maxHeight pending)) [] dups []
        (fun e he => hp e (List.mem_filter.mp he).1) hd (by simp)
      refine ih _ _ (fun e he => ?_) this.1
      rcases List.mem_append.mp he with he | he
      · exact hp e (List.mem_filter.mp he).1
      · exact this.2 e he

theorem markDups_marked (roots : List Tree) (hr : ∀ t ∈ roots, L (t, [])) : Marked L (markDups roots) := by
  refine markLoop_marked hL _ _ _ (fun e he => ?_) (fun key n h => by simp [dupGet_nil] at h)
  obtain ⟨t, ht, rfl⟩ := List.mem_map.mp he
  exact hr t ht

end marked

section
variable (C : CharClass) (E : Env)

/-- a pending node: a preprocessed, valid sub-formula with the domains of the quantifiers open above it -/
def Legit (e : Tree × DomMap) : Prop :=
  ∃ ds : List (Option Name), e.2 = fvdOf ds ∧ DepthNamed ds.length e.1 ∧ WellScoped E.G.k ds.length e.1 ∧
    Lex.TreeOK C e.1 ∧ PropNamesOK e.1

variable {C E}

theorem legit_children (t : Tree) (doms : DomMap) (h : Legit C E (t, doms)) :
    ∀ e ∈ childrenWithDoms t doms, Legit C E e := by
  obtain ⟨ds, hd, hn, hw, hv, hp⟩ := h
  simp only at hd hn hw hv hp
  intro e he
  cases t with
  | atom a => simp [childrenWithDoms] at he
  | un o c =>
    simp only [childrenWithDoms, List.mem_singleton] at he
    subst he
    exact ⟨ds, hd, hn, hw, hv, hp⟩
  | bin o l r =>
    simp only [childrenWithDoms, List.mem_cons, List.not_mem_nil, or_false] at he
    rcases he with rfl | rfl
    · exact ⟨ds, hd, hn.1, hw.1, hv.1, hp.1⟩
    · exact ⟨ds, hd, hn.2, hw.2, hv.2, hp.2⟩
  | hyb o v dom c =>
    by_cases hj : o = .jump
    · simp only [childrenWithDoms, hj, if_true, List.mem_singleton] at he
      subst he
      simp only [DepthNamed, WellScoped, hj, if_true] at hn hw
      exact ⟨ds, hd, hn.2, hw.2, hv.2.2, hp⟩
    · simp only [childrenWithDoms, hj, if_false, List.mem_singleton] at he
      subst he
      simp only [DepthNamed, WellScoped, hj, if_false] at hn hw
      refine ⟨ds ++ [dom], ?_, by simpa using hn.2, by simpa using hw.2.2, hv.2.2, hp⟩
      rw [hd, hn.1]
      exact domInsert_fvdOf ds dom

theorem markDups_witness (roots : List Tree)
    (hr : ∀ t ∈ roots, DepthNamed 0 t ∧ WellScoped E.G.k 0 t ∧ Lex.TreeOK C t ∧ PropNamesOK t) :
    ∀ key n, dupGet key (markDups roots) = some n → KeyWitness C E key := by
  intro key n h
  obtain ⟨_, ⟨t, doms⟩, ⟨ds, _, hn, hw, hv, hp⟩, hkey, hlen⟩ :=
    markDups_marked (L := Legit C E) legit_children roots (fun t ht => ⟨[], rfl, hr t ht⟩) key n h
  exact ⟨t, ds.length, doms, (keyOf t doms).2, by rw [← hkey], hlen, hn, hw, hv, hp⟩

end

/-- the nodes `mark_duplicates` may visit at and below a node, each with the domains open above it -/
def occs : Tree → DomMap → List (Tree × DomMap)
  | .atom a, d => [(.atom a, d)]
  | .un o c, d => (.un o c, d) :: occs c d
  | .bin o l r, d => (.bin o l r, d) :: (occs l d ++ occs r d)
  | .hyb o v dom c, d => (.hyb o v dom c, d) :: occs c (if o = .jump then d else domInsert v dom d)

def occAll (l : List (Tree × DomMap)) : List (Tree × DomMap) := l.flatMap (fun e => occs e.1 e.2)

def cnt (key : Key) (l : List (Tree × DomMap)) : Int := (l.countP (fun e => (keyOf e.1 e.2).1 == key) : Nat)

theorem occs_eq (t : Tree) (d : DomMap) : occs t d = (t, d) :: occAll (childrenWithDoms t d) := by
  cases t with
  | atom a => simp [occs, childrenWithDoms, occAll]
  | un o c => simp [occs, childrenWithDoms, occAll]
  | bin o l r => simp [occs, childrenWithDoms, occAll]
  | hyb o v dom c =>
    by_cases hj : o = .jump <;> simp [occs, childrenWithDoms, occAll, hj]

theorem cnt_append (key : Key) (a b : List (Tree × DomMap)) : cnt key (a ++ b) = cnt key a + cnt key b := by
  simp [cnt, List.countP_append]

theorem occAll_append (a b : List (Tree × DomMap)) : occAll (a ++ b) = occAll a ++ occAll b := by
  simp [occAll, List.flatMap_append]

theorem occAll_cons (e : Tree × DomMap) (l : List (Tree × DomMap)) : occAll (e :: l) = occs e.1 e.2 ++ occAll l := by
  simp [occAll]

theorem occAll_nil : occAll [] = [] := rfl

theorem cnt_nil (key : Key) : cnt key [] = 0 := rfl

theorem cnt_nonneg (key : Key) (l : List (Tree × DomMap)) : 0 ≤ cnt key l := by simp [cnt]

theorem cnt_cons (key : Key) (e : Tree × DomMap) (l : List (Tree × DomMap)) :
    cnt key (e :: l) = (if (keyOf e.1 e.2).1 = key then 1 else 0) + cnt key l := by
  simp only [cnt, List.countP_cons]
  by_cases h : (keyOf e.1 e.2).1 = key
  · simp [h]; omega
  · have : ((keyOf e.1 e.2).1 == key) = false := beq_eq_false_iff_ne.mpr h
    simp [h, this]

theorem cnt_occAll_filter (key : Key) (p : Tree × DomMap → Bool) (l : List (Tree × DomMap)) :
    cnt key (occAll l) = cnt key (occAll (l.filter p)) + cnt key (occAll (l.filter (fun e => !p e))) := by
  rw [← cnt_append, ← occAll_append, cnt, cnt, occAll, occAll]
  -- the two parts are a permutation of `l`
  exact congrArg Int.ofNat (((List.filter_append_perm p l).flatMap_right _).countP_eq _).symm

theorem dupVal_dupIncr (k k' : Key) (d : DupMap) : dupVal (dupIncr k d) k' = dupVal d k' + (if k' = k then 1 else 0) := by
  rw [dupVal, dupGet_dupIncr]
  split
  · next h => subst h; simp
  · simp [dupVal]

/-- never grows: the counter of `key`, plus its occurrences at and below the nodes still to be visited, plus one once
the key has been met. It starts as the number of all occurrences and ends as counter + 1. -/
def pot (key : Key) (seen : List Key) (dups : DupMap) (todo : List (Tree × DomMap)) : Int :=
  dupVal dups key + cnt key (occAll todo) + (if key ∈ seen ∨ 0 < dupVal dups key then 1 else 0)

theorem processLevel_pot (key : Key) (cur : List (Tree × DomMap)) (seen : List Key) (dups : DupMap)
    (kids : List (Tree × DomMap)) :
    pot key [] (processLevel cur seen dups kids).1 (processLevel cur seen dups kids).2 ≤ pot key seen dups (cur ++ kids) := by
  fun_induction processLevel cur seen dups kids with
  | case1 seen dups kids =>
    simp only [pot, List.nil_append, List.not_mem_nil, false_or]
    split <;> split <;> omega
  | case2 t doms rest seen dups kids hterm ih =>
    refine Int.le_trans ih ?_
    have := cnt_nonneg key (occs t doms)
    simp only [pot, List.cons_append, occAll_cons, cnt_append]
    omega
  | case3 t doms rest seen dups kids hterm key0 ren hkey hdup ih =>
    -- a duplicate: this occurrence moves into the counter, those below it are dropped, the key had been met
    refine Int.le_trans ih ?_
    have hs : key0 ∈ seen := by simp at hdup; exact hdup.2
    have hc := cnt_nonneg key (occAll (childrenWithDoms t doms))
    simp only [pot, List.cons_append, occAll_cons, cnt_append, occs_eq, cnt_cons, hkey, dupVal_dupIncr]
    by_cases hk : key = key0
    · subst hk
      simp only [hs, true_or, if_true]
      omega
    · have hk' : ¬ key0 = key := fun hh => hk hh.symm
      simp only [hk, hk', if_false, Int.add_zero]
      omega
  | case4 t doms rest seen dups kids hterm key0 ren hkey hdup ih =>
    -- first of its key on this level: this occurrence pays for "met"
    refine Int.le_trans ih ?_
    simp only [pot, List.cons_append, occAll_cons, occAll_append, cnt_append, occs_eq, cnt_cons, hkey, List.mem_cons]
    by_cases hk : key = key0
    · subst hk
      simp only [true_or, if_true]
      split <;> omega
    · have hk' : ¬ key0 = key := fun hh => hk hh.symm
      simp only [hk, hk', if_false, false_or]
      omega

theorem bne_eq_not_beq (a b : Nat) : (a != b) = !(a == b) := rfl

theorem markLoop_pot (key : Key) : ∀ (n : Nat) (pending : List (Tree × DomMap)) (dups : DupMap),
    pot key [] (markLoop n pending dups) [] ≤ pot key [] dups pending := by
  intro n
  induction n with
  | zero =>
    intro pending dups
    have := cnt_nonneg key (occAll pending)
    simp only [markLoop, pot, occAll_nil, cnt_nil, List.not_mem_nil, false_or]
    omega
  | succ n ih =>
    intro pending dups
    rw [markLoop]
    split
    · have := cnt_nonneg key (occAll pending)
      simp only [pot, occAll_nil, cnt_nil, List.not_mem_nil, false_or]
      omega
    · refine Int.le_trans (ih _ _) ?_
      have hp := processLevel_pot key (pending.filter (fun e => e.1.height == maxHeight pending)) [] dups []
      have hsplit := cnt_occAll_filter key (fun e => e.1.height == maxHeight pending) pending
      simp only [pot, occAll_append, cnt_append, List.append_nil] at hp hsplit ⊢
      have hfil : pending.filter (fun e => !(e.1.height == maxHeight pending)) =
          pending.filter (fun e => e.1.height != maxHeight pending) := rfl
      rw [hfil] at hsplit
      omega

/-- C09, counters: a key reported with counter `n` has `n ≥ 1` and is the key (canonical text and canonical domains)
of at least `n + 1` sub-formula occurrences of the analysed formulae -/
theorem markDups_count (roots : List Tree) (key : Key) (n : Int) (h : dupGet key (markDups roots) = some n) :
    1 ≤ n ∧ n + 1 ≤ cnt key (occAll (roots.map (fun t => (t, ([] : DomMap))))) := by
  have hpos : 1 ≤ n := (markDups_marked (L := fun _ => True) (fun _ _ _ _ _ => trivial) roots (fun _ _ => trivial) key n h).1
  have hc : pot key [] (markDups roots) [] ≤ pot key [] [] (roots.map (fun t => (t, ([] : DomMap)))) :=
    markLoop_pot key _ _ _
  have hv : dupVal (markDups roots) key = n := by simp [dupVal, h]
  have h0 : dupVal [] key = 0 := rfl
  simp only [pot, hv, h0, occAll_nil, cnt_nil, List.not_mem_nil, false_or] at hc
  exact ⟨hpos, by omega⟩

end Hctl
