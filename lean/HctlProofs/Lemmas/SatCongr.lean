/-
  What `sat` depends on, each an induction over the formula through `sat_un` / `sat_bin` / `sat_hyb`: the colour's
  transition system only (`sat_agree`), the variables of the enclosing quantifiers only (`sat_valuation_agree`, for
  `WellScoped` formulae, which are `WellNamed`), the context sets of the labels that occur only (`sat_ctx_agree`).
-/
import HctlProofs.Lemmas.Scoping
import HctlProofs.Lemmas.Points
import HctlProofs.Lemmas.SatStep
namespace Hctl

theorem AgreeCol.R_eq {G G' : Graph} {c c' : Nat} (h : AgreeCol G G' c c') : G.R c = G'.R c' := by
  funext s t
  simp only [Graph.R, Graph.stepRel, Graph.isSteady, h.nV, h.step]

theorem sat_agree {G G' : Graph} {c c' : Nat} (h : AgreeCol G G' c c') (K : SemCtx)
    (hW : ∀ w a, K.wild w = some a → ∀ s v, a ⟨s, c, v⟩ = a ⟨s, c', v⟩)
    (hD : ∀ l a, K.dom l = some a → ∀ s v, a ⟨s, c, v⟩ = a ⟨s, c', v⟩) :
    ∀ t s v, sat G K t ⟨s, c, v⟩ ↔ sat G' K t ⟨s, c', v⟩ := by
  intro t
  induction t with
  | atom a =>
    intro s v
    cases a with
    | wild w => exact exists_congr fun a => and_congr_right fun ha => by rw [hW w a ha]
    | prop n => simp only [sat, h.label]
    | _ => exact Iff.rfl
  | un o φ ih =>
    intro s v
    rw [sat_un, sat_un, h.R_eq]
    exact stepUn_congr o s fun t => ih t v
  | bin o φ ψ ihl ihr =>
    intro s v
    rw [sat_bin, sat_bin, h.R_eq]
    exact stepBin_congr o s (fun t => ihl t v) (fun t => ihr t v)
  | hyb o x d φ ih =>
    intro s v
    rw [sat_hyb, sat_hyb, h.nS]
    exact stepHyb_congr o s (fun t => inDom_congr_of d fun l a ha => hD l a ha t v) (fun _ => ih _ v) (fun _ t => ih s _)

theorem inDom_congr {K : SemCtx} (hSC : CtxSC K) (d : Option Name) {q q' : Point}
    (hs : q.s = q'.s) (hc : q.c = q'.c) : inDom K d q ↔ inDom K d q' :=
  inDom_congr_of d fun l a ha => hSC.dom l a ha q q' hs hc

theorem sat_valuation_agree (G : Graph) (K : SemCtx) (hSC : CtxSC K) (k : Nat) :
    ∀ t d s c (v v' : List Nat), WellScoped k d t → k ≤ v.length → k ≤ v'.length →
      (∀ i, i < d → (Point.mk s c v).getV i = (Point.mk s c v').getV i) →
      (sat G K t ⟨s, c, v⟩ ↔ sat G K t ⟨s, c, v'⟩) := by
  intro t
  induction t with
  | atom a =>
    intro d s c v v' hw _ _ hv
    cases a with
    | var x => simp only [sat]; rw [hv _ hw]
    | wild w =>
      exact exists_congr fun a => and_congr_right fun ha => by rw [hSC.wild w a ha ⟨s, c, v⟩ ⟨s, c, v'⟩ rfl rfl]
    | _ => exact Iff.rfl
  | un o φ ih =>
    intro d s c v v' hw hl hl' hv
    rw [sat_un, sat_un]
    exact stepUn_congr o s fun t => ih d t c v v' hw hl hl' hv
  | bin o φ ψ ihl ihr =>
    intro d s c v v' hw hl hl' hv
    rw [sat_bin, sat_bin]
    exact stepBin_congr o s (fun t => ihl d t c v v' hw.1 hl hl' hv) (fun t => ihr d t c v v' hw.2 hl hl' hv)
  | hyb o x dom φ ih =>
    intro d s c v v' hw hl hl' hv
    rw [sat_hyb, sat_hyb]
    refine stepHyb_congr o s (fun t => inDom_congr hSC dom rfl rfl) (fun hj => ?_) (fun hj t => ?_)
    · -- the jump target is the value of a variable of an enclosing quantifier
      simp only [WellScoped, hj, if_true] at hw
      rw [hv _ hw.1]
      exact ih d _ c v v' hw.2 hl hl' hv
    · -- below the quantifier the valuations agree on one more index
      simp only [WellScoped, hj, if_false] at hw
      obtain ⟨hx, hdk, hwc⟩ := hw
      have hxv : varId x < v.length := hx ▸ Nat.lt_of_lt_of_le hdk hl
      have hxv' : varId x < v'.length := hx ▸ Nat.lt_of_lt_of_le hdk hl'
      refine ih (d + 1) s c (v.set (varId x) t) (v'.set (varId x) t) hwc (by rw [List.length_set]; exact hl)
        (by rw [List.length_set]; exact hl') fun i hi => ?_
      show ((Point.mk s c v).setV (varId x) t).getV i = ((Point.mk s c v').setV (varId x) t).getV i
      by_cases hid : varId x = i
      · subst hid
        rw [setV_getV_same _ _ _ hxv, setV_getV_same _ _ _ hxv']
      · rw [setV_getV_ne _ _ _ _ hid, setV_getV_ne _ _ _ _ hid]
        exact hv i (Nat.lt_of_le_of_ne (Nat.le_of_lt_succ hi) fun e => hid (hx.trans e.symm))

theorem sat_ctx_agree (G : Graph) (K1 K2 : SemCtx) :
    ∀ t, (∀ w ∈ wildLabels t, K1.wild w = K2.wild w) → (∀ d ∈ domLabels t, K1.dom d = K2.dom d) →
      ∀ p, (sat G K1 t p ↔ sat G K2 t p) := by
  intro t
  induction t with
  | atom a =>
    intro h _ p
    cases a with
    | wild w => simp only [sat, h w (by simp [wildLabels])]
    | _ => simp only [sat]
  | un o c ih =>
    intro h hd p
    rw [sat_un, sat_un]
    exact stepUn_congr o p.s fun t => ih (by simpa [wildLabels] using h) (by simpa [domLabels] using hd) _
  | bin o l r ihl ihr =>
    intro h hd p
    simp only [wildLabels, domLabels, List.mem_append] at h hd
    rw [sat_bin, sat_bin]
    exact stepBin_congr o p.s (fun t => ihl (fun w hw => h w (Or.inl hw)) (fun w hw => hd w (Or.inl hw)) _)
      (fun t => ihr (fun w hw => h w (Or.inr hw)) (fun w hw => hd w (Or.inr hw)) _)
  | hyb o x d c ih =>
    intro h hd p
    have hin : ∀ q, inDom K1 d q ↔ inDom K2 d q := by
      intro q
      cases d with
      | none => simp [inDom]
      | some l => simp only [inDom]; rw [hd l (by simp [domLabels])]
    have ih' : ∀ q, sat G K1 c q ↔ sat G K2 c q := by
      refine ih (by simpa [wildLabels] using h) (fun l hl => hd l ?_)
      cases d <;> simp [domLabels, hl]
    rw [sat_hyb, sat_hyb]
    exact stepHyb_congr o p.s (fun t => hin _) (fun _ => ih' _) (fun _ t => ih' _)

end Hctl
