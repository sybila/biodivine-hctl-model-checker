import HctlProofs.Spec.Denotation
namespace Hctl

theorem eqOn_iff {pts : List Point} {a b : CSet} : eqOn pts a b = true ↔ EqOn pts a b := by
  simp [eqOn, EqOn, List.all_eq_true]

theorem isEmptyOn_iff {pts : List Point} {a : CSet} : isEmptyOn pts a = true ↔ ∀ p ∈ pts, a p = false := by
  simp [isEmptyOn, List.all_eq_true]

theorem EqOn.refl {pts} (a : CSet) : EqOn pts a a := fun _ _ => rfl
theorem EqOn.symm {pts} {a b : CSet} (h : EqOn pts a b) : EqOn pts b a := fun p hp => (h p hp).symm
theorem EqOn.trans {pts} {a b c : CSet} (h1 : EqOn pts a b) (h2 : EqOn pts b c) : EqOn pts a c :=
  fun p hp => (h1 p hp).trans (h2 p hp)
theorem EqOn.sub {pts} {a b : CSet} (h : EqOn pts a b) : SubOn pts a b := fun p hp ha => by rw [← h p hp]; exact ha
theorem SubOn.refl {pts} (a : CSet) : SubOn pts a a := fun _ _ h => h
theorem SubOn.trans {pts} {a b c : CSet} (h1 : SubOn pts a b) (h2 : SubOn pts b c) : SubOn pts a c :=
  fun p hp h => h2 p hp (h1 p hp h)
theorem SubOn.antisymm {pts} {a b : CSet} (h1 : SubOn pts a b) (h2 : SubOn pts b a) : EqOn pts a b :=
  fun p hp => Bool.eq_iff_iff.mpr ⟨h1 p hp, h2 p hp⟩

section mem
variable (a b : CSet) (p : Point)
theorem CSet.mem_inter : (a.inter b) p = true ↔ a p = true ∧ b p = true := by simp [CSet.inter]
theorem CSet.mem_union : (a.union b) p = true ↔ a p = true ∨ b p = true := by simp [CSet.union]
theorem CSet.mem_minus : (a.minus b) p = true ↔ a p = true ∧ b p = false := by simp [CSet.minus]
theorem CSet.mem_empty : CSet.empty p = false := rfl
end mem

theorem card_le_length (pts : List Point) (a : CSet) : card pts a ≤ pts.length := List.countP_le_length

theorem card_mono {pts : List Point} {a b : CSet} (h : SubOn pts a b) : card pts a ≤ card pts b :=
  List.countP_mono_left h

theorem card_lt {pts : List Point} {a b : CSet} (h : SubOn pts a b) (hne : ¬ EqOn pts a b) :
    card pts a < card pts b := by
  induction pts with
  | nil => exact absurd (fun _ hp => nomatch hp) hne
  | cons p ps ih =>
    have hsub : SubOn ps a b := fun q hq => h q (List.mem_cons_of_mem _ hq)
    simp only [card, List.countP_cons]
    by_cases hp : a p = b p
    · have := ih hsub fun heq => hne (List.forall_mem_cons.mpr ⟨hp, heq⟩)
      simp only [card] at this
      rw [hp]
      omega
    · have hap : a p = false := Bool.eq_false_iff.mpr fun ha => hp (ha.trans (h p (List.mem_cons_self ..) ha).symm)
      have hbp : b p = true := Bool.of_not_eq_false fun hb => hp (hap.trans hb.symm)
      have := card_mono hsub
      simp only [card] at this
      rw [hap, hbp]
      simp only [Bool.false_eq_true, if_false, if_true]
      omega

theorem card_empty (pts : List Point) : card pts CSet.empty = 0 := by
  simp [card, CSet.empty]

end Hctl
