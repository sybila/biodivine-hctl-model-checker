/-
  C09, character level = tree level (`canonChars_render`).  The fuel is dealt with once (`run`); what the loop does on
  each kind of text segment is a rewrite rule `run_*`; `run_render` chains them along the tree.
-/
import HctlProofs.Lemmas.LexChars
import HctlProofs.Lemmas.CanonTree
namespace Hctl
open Lex

def CanonSt.tree (st : CanonSt) : CanonT := ⟨st.map, st.stack⟩

def CanonSt.step (st : CanonSt) (T : CanonT) (w : List Char) : CanonSt := ⟨T.map, st.out ++ w, T.stack⟩

def CanonSt.emit (st : CanonSt) (w : List Char) : CanonSt := st.step st.tree w

namespace CanonProof

theorem readVar_app (v rest : List Char) (hv : ∀ c ∈ v, c ≠ '}') : readVar (v ++ '}' :: rest) = (v, rest) := by
  induction v with
  | nil => simp [readVar]
  | cons c v ih =>
    have hc := hv c (by simp)
    simp only [List.cons_append, readVar, hc, if_false]
    rw [ih (fun x hx => hv x (by simp [hx]))]

theorem readVar_length (cs : List Char) : (readVar cs).2.length ≤ cs.length := by
  induction cs with
  | nil => simp [readVar]
  | cons c cs ih =>
    simp only [readVar]
    split
    · simp
    · simp only [List.length_cons]
      omega

theorem canonLoop_fuel : ∀ (n n' d : Nat) (cs : List Char) (st : CanonSt), cs.length < n → cs.length < n' →
    canonLoop n d cs st = canonLoop n' d cs st := by
  intro n
  induction n with
  | zero => intro n' d cs st h; omega
  | succ n ih =>
    intro n' d cs st h h'
    cases n' with
    | zero => omega
    | succ n' =>
      cases cs with
      | nil => simp only [canonLoop]
      | cons c cs =>
        simp only [List.length_cons, Nat.add_lt_add_iff_right] at h h'
        -- every recursive call is on `cs` or on what `readVar` leaves of it
        have same (xs : List Char) (hx : xs.length ≤ cs.length) (d : Nat) (st : CanonSt) :
            canonLoop n d xs st = canonLoop n' d xs st := ih n' d xs st (by omega) (by omega)
        have hdrop : (cs.drop 1).length ≤ cs.length := by simp
        simp only [canonLoop, same cs (Nat.le_refl _), same _ (readVar_length cs),
          same _ (Nat.le_trans (readVar_length (cs.drop 1)) hdrop)]

def run (d : Nat) (cs : List Char) (st : CanonSt) : CanonSt := canonLoop (cs.length + 1) d cs st

theorem run_eq {n d : Nat} {cs : List Char} {st : CanonSt} (h : cs.length < n) : canonLoop n d cs st = run d cs st :=
  canonLoop_fuel _ _ _ _ _ h (Nat.lt_succ_self _)

variable {d : Nat} {cs rest : List Char} {st : CanonSt}

theorem step_step (T T' : CanonT) (a b : List Char) : (st.step T a).step T' b = st.step T' (a ++ b) := by
  simp [CanonSt.step]

theorem step_tree (T : CanonT) (a : List Char) : (st.step T a).tree = T := rfl

theorem run_nil : run d [] st = st := rfl

theorem run_open : run d ('(' :: cs) st = run (d + 1) cs (st.emit ['(']) := by rfl

theorem run_close : run (d + 1) (')' :: cs) st = run d cs (st.emit [')']) := by rfl

/-- what the loop copies, unless a `3` or `V` opens a binder (`run_copy`) -/
abbrev Inert (c : Char) : Prop := c ≠ '(' ∧ c ≠ ')' ∧ c ≠ '{' ∧ c ≠ '!'

/-- the loop reads `!{`, `3{` and `V{` as binders, so a `3` or `V` is copied only if no `{` follows -/
theorem run_copy {c : Char} (hc : Inert c) (hn : cs.head? = some '{' → c ≠ '3' ∧ c ≠ 'V') :
    run d (c :: cs) st = run d cs (st.emit [c]) := by
  obtain ⟨h1, h2, h3, h4⟩ := hc
  have hb : ((c = '!' || c = '3' || c = 'V') && cs.head? = some '{') = false := by
    by_cases hh : cs.head? = some '{'
    · simp [h4, hn hh]
    · simp [hh]
  simp only [run, List.length_cons, canonLoop, h1, h2, h3, hb, if_false]
  rfl

theorem run_lit {c : Char} (h : Inert c ∧ c ≠ '3' ∧ c ≠ 'V') : run d (c :: cs) st = run d cs (st.emit [c]) :=
  run_copy h.1 (fun _ => h.2)

/-- only the last character of a word can be taken for a binder, by what follows the word -/
theorem run_word : ∀ (w : List Char) {rest : List Char} {st : CanonSt}, (∀ c ∈ w, Inert c) →
    (rest.head? = some '{' → w.getLast? ≠ some '3' ∧ w.getLast? ≠ some 'V') →
    run d (w ++ rest) st = run d rest (st.emit w)
  | [], _, _, _, _ => by simp [CanonSt.emit, CanonSt.step, CanonSt.tree]
  | [c], _, _, hw, hr => run_copy (hw c (.head _)) (fun h => by simpa using hr h)
  | c :: c2 :: w, rest, st, hw, hr => by
    have h2 : (c2 :: w ++ rest).head? ≠ some '{' := by simpa using (hw c2 (.tail _ (.head _))).2.2.1
    rw [List.cons_append, run_copy (hw c (.head _)) (fun h => absurd h h2),
      run_word (c2 :: w) (fun x hx => hw x (.tail _ hx)) (by rwa [List.getLast?_cons_cons] at hr)]
    simp only [CanonSt.emit, step_tree, step_step, List.singleton_append]

theorem length_var (v rest : List Char) : rest.length < (v ++ '}' :: rest).length + 1 := by
  simp only [List.length_append, List.length_cons]
  omega

theorem run_var {v : List Char} (hv : ∀ c ∈ v, c ≠ '}') : run d ('{' :: (v ++ '}' :: rest)) st =
    run d rest (st.step (canonVar v st.tree).2 ('{' :: ((canonVar v st.tree).1 ++ ['}']))) := by
  rw [run, List.length_cons, canonLoop]
  simp only [Char.reduceEq, if_false, if_true, Bool.false_eq_true, decide_false, Bool.or_false, Bool.false_and,
    readVar_app v rest hv, run_eq (length_var v rest), canonVar, CanonSt.tree]
  cases List.lookup v st.map with
  | some cn => simp only [CanonSt.step, List.append_assoc, List.cons_append]
  | none => simp only [CanonSt.step, List.append_assoc, List.cons_append]

theorem run_binder {q : Char} (hq : q = '!' ∨ q = '3' ∨ q = 'V') {v : List Char} (hv : ∀ c ∈ v, c ≠ '}') :
    run d (q :: '{' :: (v ++ '}' :: rest)) st = run d rest
      (st.step ⟨mapInsert v (canonName st.stack) st.map, st.stack + 1⟩ (q :: '{' :: (canonName st.stack ++ ['}']))) := by
  have h1 : q ≠ '(' ∧ q ≠ ')' ∧ (q = '!' || q = '3' || q = 'V') = true := by
    rcases hq with rfl | rfl | rfl <;> decide
  rw [run, List.length_cons, canonLoop]
  simp only [h1, if_false, if_true, List.head?_cons, decide_true, Bool.and_self, List.drop_succ_cons, List.drop_zero,
    readVar_app v rest hv, List.length_cons, run_eq (Nat.lt_add_right 1 (length_var v rest)), CanonSt.step,
    List.append_assoc, List.cons_append]

theorem lit_sp : Inert ' ' ∧ ' ' ≠ '3' ∧ ' ' ≠ 'V' := by decide
theorem lit_pct : Inert '%' ∧ '%' ≠ '3' ∧ '%' ≠ 'V' := by decide
theorem lit_colon : Inert ':' ∧ ':' ≠ '3' ∧ ':' ≠ 'V' := by decide
theorem lit_at : Inert '@' ∧ '@' ≠ '3' ∧ '@' ≠ 'V' := by decide

theorem run_hyb (o : HybOp) {v : List Char} (hv : ∀ c ∈ v, c ≠ '}') : run d (o.str ++ '{' :: (v ++ '}' :: rest)) st =
    run d rest (st.step (hybVar o v st.tree).2 (o.str ++ '{' :: ((hybVar o v st.tree).1 ++ ['}']))) := by
  cases o with
  | jump =>
    rw [show HybOp.jump.str = ['@'] from rfl, List.singleton_append, run_lit lit_at, run_var hv]
    simp only [hybVar, CanonSt.emit, step_step, step_tree, if_true, List.singleton_append]
  | bind => exact run_binder (Or.inl rfl) hv
  | ex => exact run_binder (Or.inr (Or.inl rfl)) hv
  | all => exact run_binder (Or.inr (Or.inr rfl)) hv

theorem inert_of_name {K : CharClass} (hK : CharsOK K) {c : Char} (hc : isName K c = true) : Inert c := by
  have := name_ne_special hK hc
  exact ⟨this _ (by decide), this _ (by decide), this _ (by decide), this _ (by decide)⟩

theorem name_ne_close {K : CharClass} (hK : CharsOK K) {v : Name} (hv : ValidId K v) : ∀ c ∈ v, c ≠ '}' :=
  fun c hc => name_ne_special hK (hv.2 c hc) _ (by decide)

/-! The renderer on each form of tree, by `rfl`: a `simp` that unfolds `Atom.str` or `domStr` is slow, so the proofs
below rewrite with these equations and leave the words folded. -/

def unWord (o : UnOp) : List Char := if o = .not then ['~'] else o.str ++ [' ']

theorem render_un (o : UnOp) (c : Tree) : (Tree.un o c).render = '(' :: (unWord o ++ (c.render ++ [')'])) := by
  cases o <;> rfl

theorem render_var (v : Name) : (Tree.atom (.var v)).render = '{' :: v ++ ['}'] := rfl

theorem render_wild (w : Name) : (Tree.atom (.wild w)).render = '%' :: w ++ ['%'] := rfl

theorem render_bin (o : BinOp) (l r : Tree) :
    (Tree.bin o l r).render = '(' :: l.render ++ ' ' :: o.str ++ ' ' :: r.render ++ [')'] := rfl

theorem render_hyb (o : HybOp) (v : Name) (d : Option Name) (c : Tree) :
    (Tree.hyb o v d c).render = '(' :: o.str ++ '{' :: v ++ '}' :: domStr d ++ ':' :: ' ' :: c.render ++ [')'] := rfl

theorem inert_bin (o : BinOp) : ∀ c ∈ o.str, Inert c := by cases o <;> decide +kernel

theorem unWord_ok (o : UnOp) :
    (∀ c ∈ unWord o, Inert c) ∧ (unWord o).getLast? ≠ some '3' ∧ (unWord o).getLast? ≠ some 'V' := by
  cases o <;> decide +kernel

theorem inert_dom {K : CharClass} (hK : CharsOK K) {o : HybOp} {v : Name} {d : Option Name} {c : Tree}
    (ht : TreeOK K (.hyb o v d c)) : ∀ x ∈ domStr d, Inert x := by
  cases d with
  | none => exact fun _ h => nomatch h
  | some dn =>
    intro x (hx : x ∈ " in %".toList ++ dn ++ ['%'])
    rcases List.mem_append.mp hx with hx | hx
    · rcases List.mem_append.mp hx with hx | hx
      · exact (show ∀ c ∈ " in %".toList, Inert c by decide +kernel) x hx
      · exact inert_of_name hK (ht.2.1.2.2 x hx)
    · exact List.mem_singleton.mp hx ▸ lit_pct.1

def after (t : Tree) (st : CanonSt) : CanonSt := st.step (canonTreeAux t st.tree).2 (canonTreeAux t st.tree).1.render

/-- in each case: bring the text into the shape of the segment rules, run them, compare the states -/
theorem run_render {K : CharClass} (hK : CharsOK K) (t : Tree) (ht : TreeOK K t) (hr : rest.head? ≠ some '{') :
    run d (t.render ++ rest) st = run d rest (after t st) := by
  induction t generalizing d rest st with
  | atom a =>
    cases a with
    | prop n => exact run_word n (fun c hc => inert_of_name hK (ht.1.2 c hc)) (fun h => absurd h hr)
    | tt => exact run_word _ (by decide +kernel) (fun h => absurd h hr)
    | ff => exact run_word _ (by decide +kernel) (fun h => absurd h hr)
    | wild w =>
      simp only [render_wild, List.cons_append, List.append_assoc, List.nil_append]
      rw [run_lit lit_pct, run_word w (fun c hc => inert_of_name hK (ht.2 c hc)) (by simp), run_lit lit_pct]
      simp only [CanonSt.emit, step_tree, step_step]
      rfl
    | var v =>
      simp only [render_var, List.cons_append, List.append_assoc, List.nil_append]
      rw [run_var (name_ne_close hK ht)]
      simp only [after, canonTreeAux_var, render_var, List.cons_append]
  | un o c ih =>
    rw [render_un]
    simp only [List.cons_append, List.append_assoc, List.nil_append]
    rw [run_open, run_word _ (unWord_ok o).1 (fun _ => (unWord_ok o).2), ih ht (by simp), run_close]
    simp only [after, CanonSt.emit, step_tree, step_step, canonTreeAux_un, render_un, List.cons_append, List.append_assoc,
      List.nil_append]
  | bin o l r ihl ihr =>
    simp only [render_bin, List.cons_append, List.append_assoc, List.nil_append]
    rw [run_open, ihl ht.1 (by simp), run_lit lit_sp, run_word _ (inert_bin o) (by simp), run_lit lit_sp,
      ihr ht.2 (by simp), run_close]
    simp only [after, CanonSt.emit, step_tree, step_step, canonTreeAux_bin, render_bin, List.cons_append, List.append_assoc,
      List.nil_append]
  | hyb o v dom c ih =>
    simp only [render_hyb, List.cons_append, List.append_assoc, List.nil_append]
    rw [run_open, run_hyb o (name_ne_close hK ht.1), run_word _ (inert_dom hK ht) (by simp), run_lit lit_colon,
      run_lit lit_sp, ih ht.2.2 (by simp), run_close]
    simp only [after, CanonSt.emit, step_tree, step_step, canonTreeAux_hyb, render_hyb, List.cons_append,
      List.append_assoc, List.nil_append]

end CanonProof

/-- On the canonical rendering of a tree over valid identifiers the character-level canoniser of the code yields the
rendering of the tree-level canonical form, with the same renaming map. -/
theorem canonChars_render {K : CharClass} (hK : CharsOK K) (t : Tree) (ht : TreeOK K t) :
    canonChars t.render = ((canonTree t).1.render, (canonTree t).2) := by
  have h := CanonProof.run_render (d := 0) (rest := []) (st := {}) hK t ht (by simp)
  rw [List.append_nil, CanonProof.run_nil, CanonProof.run] at h
  simp only [canonChars, h, CanonProof.after, CanonSt.step, canonTree, List.nil_append]
  rfl

def TreeValid (t : Tree) : Prop := ∃ C : CharClass, CharsOK C ∧ TreeOK C t ∧ PropNamesOK t

theorem TreeValid.un {o : UnOp} {c : Tree} (h : TreeValid (.un o c)) : TreeValid c := by
  obtain ⟨C, h1, h2, h3⟩ := h; exact ⟨C, h1, h2, h3⟩

theorem TreeValid.binl {o : BinOp} {l r : Tree} (h : TreeValid (.bin o l r)) : TreeValid l := by
  obtain ⟨C, h1, h2, h3⟩ := h
  exact ⟨C, h1, h2.1, h3.1⟩

theorem TreeValid.binr {o : BinOp} {l r : Tree} (h : TreeValid (.bin o l r)) : TreeValid r := by
  obtain ⟨C, h1, h2, h3⟩ := h
  exact ⟨C, h1, h2.2, h3.2⟩

theorem TreeValid.hyb {o : HybOp} {v : Name} {d : Option Name} {c : Tree} (h : TreeValid (.hyb o v d c)) : TreeValid c := by
  obtain ⟨C, h1, h2, h3⟩ := h
  exact ⟨C, h1, h2.2.2, h3⟩

end Hctl
