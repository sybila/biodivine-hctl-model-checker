/-
  Path quantification versus the (co)inductive forms of the CTL operators, for an arbitrary relation (total where a
  path has to be built: `hT`).  Classical choice builds the paths.
-/
import HctlProofs.Spec.Kripke
namespace Hctl.Kripke

variable {α : Type}

def Path.tail {R : α → α → Prop} {s : α} (p : Path R s) : Path R (p.π 1) :=
  ⟨fun i => p.π (i + 1), rfl, fun i => p.hstep (i + 1)⟩

def Path.cons {R : α → α → Prop} {s t : α} (h : R s t) (p : Path R t) : Path R s :=
  ⟨fun i => match i with | 0 => s | i + 1 => p.π i, rfl, fun i => by
    cases i with
    | zero => simpa [p.h0] using h
    | succ i => exact p.hstep i⟩

def Total (R : α → α → Prop) : Prop := ∀ s, ∃ t, R s t

def iter (f : α → α) (s : α) : Nat → α
  | 0 => s
  | n + 1 => f (iter f s n)

def pathOf {R : α → α → Prop} (f : α → α) (hf : ∀ s, R s (f s)) (s : α) : Path R s :=
  ⟨iter f s, rfl, fun _ => hf _⟩

theorem exists_path {R : α → α → Prop} (hT : Total R) (s : α) : Nonempty (Path R s) :=
  ⟨pathOf (fun x => Classical.choose (hT x)) (fun x => Classical.choose_spec (hT x)) s⟩

theorem eu_path_iff {R : α → α → Prop} (hT : Total R) (φ ψ : α → Prop) (s : α) :
    (∃ p : Path R s, ∃ i, ψ (p.π i) ∧ ∀ j, j < i → φ (p.π j)) ↔ EUi R φ ψ s := by
  constructor
  · rintro ⟨p, i, hψ, hφ⟩
    induction i generalizing s with
    | zero => rw [p.h0] at hψ; exact EUi.here hψ
    | succ i ih =>
      have h0 : φ s := by have := hφ 0 (Nat.succ_pos i); rwa [p.h0] at this
      have hR : R s (p.π 1) := by have := p.hstep 0; rwa [p.h0] at this
      exact EUi.step h0 hR (ih (p.π 1) p.tail hψ (fun j hj => hφ (j + 1) (Nat.succ_lt_succ hj)))
  · intro h
    induction h with
    | @here s hψ =>
      obtain ⟨p⟩ := exists_path hT s
      exact ⟨p, 0, by rw [p.h0]; exact hψ, fun j hj => absurd hj (Nat.not_lt_zero j)⟩
    | @step s t hφ hR _ ih =>
      obtain ⟨p, i, hψ, hφ'⟩ := ih
      refine ⟨Path.cons hR p, i + 1, hψ, ?_⟩
      intro j hj
      cases j with
      | zero => exact hφ
      | succ j => exact hφ' j (Nat.lt_of_succ_lt_succ hj)

theorem eg_path_iff {R : α → α → Prop} (φ : α → Prop) (s : α) :
    (∃ p : Path R s, ∀ i, φ (p.π i)) ↔ EGc R φ s := by
  constructor
  · rintro ⟨p, h⟩
    refine ⟨fun x => ∃ i, p.π i = x, ⟨0, p.h0⟩, ?_⟩
    rintro x ⟨i, rfl⟩
    exact ⟨h i, p.π (i + 1), p.hstep i, ⟨i + 1, rfl⟩⟩
  · rintro ⟨X, hs, hX⟩
    classical
    let f : α → α := fun x => if hx : X x then Classical.choose (hX x hx).2 else x
    have hf : ∀ x, X x → R x (f x) ∧ X (f x) := by
      intro x hx
      simp only [f, dif_pos hx]
      exact Classical.choose_spec (hX x hx).2
    have hin : ∀ i, X (iter f s i) := by
      intro i
      induction i with
      | zero => exact hs
      | succ i ih => exact (hf _ ih).2
    refine ⟨⟨iter f s, rfl, fun i => (hf _ (hin i)).1⟩, fun i => (hX _ (hin i)).1⟩

theorem AUi.on_paths {R : α → α → Prop} {φ ψ : α → Prop} {s : α} (h : AUi R φ ψ s) :
    ∀ p : Path R s, ∃ i, ψ (p.π i) ∧ ∀ j, j < i → φ (p.π j) := by
  induction h with
  | @here s hψ => intro p; exact ⟨0, by rw [p.h0]; exact hψ, fun j hj => absurd hj (Nat.not_lt_zero j)⟩
  | @step s hφ _ ih =>
    intro p
    have hR : R s (p.π 1) := by have := p.hstep 0; rwa [p.h0] at this
    obtain ⟨i, hψ, hφ'⟩ := ih (p.π 1) hR p.tail
    refine ⟨i + 1, hψ, ?_⟩
    intro j hj
    cases j with
    | zero => rw [p.h0]; exact hφ
    | succ j => exact hφ' j (Nat.lt_of_succ_lt_succ hj)

theorem AUi.of_paths {R : α → α → Prop} (hT : Total R) {φ ψ : α → Prop} {s : α}
    (h : ∀ p : Path R s, ∃ i, ψ (p.π i) ∧ ∀ j, j < i → φ (p.π j)) : AUi R φ ψ s := by
  classical
  apply Classical.byContradiction
  intro hn
  -- from a φ-state outside AUi one can step to a state outside AUi
  have key : ∀ x, ¬ AUi R φ ψ x → ¬ ψ x ∧ (φ x → ∃ y, R x y ∧ ¬ AUi R φ ψ y) := by
    intro x hx
    refine ⟨fun hψ => hx (AUi.here hψ), fun hφ => ?_⟩
    apply Classical.byContradiction
    intro hne
    apply hx
    refine AUi.step hφ (fun t ht => ?_)
    apply Classical.byContradiction
    intro hnt
    exact hne ⟨t, ht, hnt⟩
  let f : α → α := fun x =>
    if hx : ¬ AUi R φ ψ x ∧ φ x then Classical.choose ((key x hx.1).2 hx.2) else Classical.choose (hT x)
  have hfR : ∀ x, R x (f x) := by
    intro x
    by_cases hx : ¬ AUi R φ ψ x ∧ φ x
    · simp only [f, dif_pos hx]; exact (Classical.choose_spec ((key x hx.1).2 hx.2)).1
    · simp only [f, dif_neg hx]; exact Classical.choose_spec (hT x)
  have hfN : ∀ x, ¬ AUi R φ ψ x → φ x → ¬ AUi R φ ψ (f x) := by
    intro x hx hφ
    have hc : ¬ AUi R φ ψ x ∧ φ x := ⟨hx, hφ⟩
    simp only [f, dif_pos hc]; exact (Classical.choose_spec ((key x hx).2 hφ)).2
  obtain ⟨i, hψ, hφ⟩ := h (pathOf f hfR s)
  have hout : ∀ j, j ≤ i → ¬ AUi R φ ψ (iter f s j) := by
    intro j
    induction j with
    | zero => intro _; exact hn
    | succ j ih =>
      intro hj
      exact hfN _ (ih (Nat.le_of_succ_le hj)) (hφ j hj)
  exact (key _ (hout i (Nat.le_refl i))).1 hψ

theorem au_path_iff {R : α → α → Prop} (hT : Total R) (φ ψ : α → Prop) (s : α) :
    (∀ p : Path R s, ∃ i, ψ (p.π i) ∧ ∀ j, j < i → φ (p.π j)) ↔ AUi R φ ψ s :=
  ⟨AUi.of_paths hT, AUi.on_paths⟩

theorem ef_path_iff {R : α → α → Prop} (hT : Total R) (φ : α → Prop) (s : α) :
    (∃ p : Path R s, ∃ i, φ (p.π i)) ↔ EUi R (fun _ => True) φ s := by
  rw [← eu_path_iff hT]
  exact exists_congr fun p => exists_congr fun i => (and_iff_left fun _ _ => trivial).symm

theorem af_path_iff {R : α → α → Prop} (φ : α → Prop) (s : α) :
    (∀ p : Path R s, ∃ i, φ (p.π i)) ↔ ¬ EGc R (fun t => ¬ φ t) s := by
  rw [← eg_path_iff]
  simp only [not_exists, Classical.not_forall, Classical.not_not]

theorem ag_path_iff {R : α → α → Prop} (hT : Total R) (φ : α → Prop) (s : α) :
    (∀ p : Path R s, ∀ i, φ (p.π i)) ↔ ¬ EUi R (fun _ => True) (fun t => ¬ φ t) s := by
  rw [← ef_path_iff hT]
  simp only [not_exists, Classical.not_not]

end Hctl.Kripke
