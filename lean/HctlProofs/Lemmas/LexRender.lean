/-
  The lexing half of the print/parse round trip: the canonical rendering of a tree over valid identifiers spells the
  tree's canonical tokens (`Sp.render`), so the tokenizer reads them back (`tokenize_render`).
-/
import HctlProofs.Lemmas.LexSpec
import HctlProofs.Spec.Scoping
namespace Hctl
namespace Lex

variable {K : CharClass}

theorem unop_str (o : UnOp) (ho : o ≠ .not) : ∃ a b, o.str = [a, b] ∧ tempUn a b = some (.un o) := by
  rw [UnOp.str_eq]
  cases o <;> first | exact absurd rfl ho | exact ⟨_, _, rfl, rfl⟩

theorem binop_str (o : BinOp) : (o = .and ∨ o = .or ∨ o = .xor ∨ o = .imp ∨ o = .iff) ∨
    ∃ a b, o.str = [a, b] ∧ tempUn a b = some (.bin o) := by
  rw [BinOp.str_eq]
  cases o
  case and | or | xor | imp | iff => exact Or.inl (by decide)
  all_goals exact Or.inr ⟨_, _, rfl, rfl⟩

theorem validName_letters (hK : CharsOK K) {n : Name} (hl : 3 ≤ n.length := by decide) (h : ∀ x ∈ n, x ∈ letters := by decide) :
    ValidName K n :=
  validName_of_three hl fun x hx => letter_name hK (h x hx)

theorem Atom.str_tt : Atom.tt.str = ['T','r','u','e'] := String.toList_ofList
theorem Atom.str_ff : Atom.ff.str = ['F','a','l','s','e'] := String.toList_ofList
theorem domStr_some (d : Name) : domStr (some d) = ' ' :: 'i' :: 'n' :: ' ' :: '%' :: (d ++ ['%']) := by
  show " in %".toList ++ d ++ ['%'] = _
  rw [show " in %".toList = [' ', 'i', 'n', ' ', '%'] from String.toList_ofList]
  rfl

theorem Sp.render (hK : CharsOK K) (ext : Bool) : ∀ (t : Tree), TreeOK K t → (ext = true ∨ Plain t) →
    Sp K ext t.render (canonToks t) := by
  have sp : ∀ {cs ts}, Sp K ext cs ts → Sp K ext (' ' :: cs) ts := fun h => Sp.ws ' ' _ _ hK.space_ws h
  have sepsp : ∀ cs, Sep K (' ' :: cs) := fun cs => sep_special hK cs
  have grp : ∀ {inner tsi}, Sp K ext inner tsi → Sp K ext ('(' :: (inner ++ [')'])) [.group tsi] :=
    fun h => Sp.group _ _ [] [] h Sp.nil
  have name : ∀ {nm}, ValidName K nm → Sp K ext nm [.atom (.prop nm)] := fun {nm} h => by
    simpa using Sp.name nm [] [] h sep_nil Sp.nil
  intro t
  induction t with
  | atom a =>
    intro ht hx
    cases a with
    | prop nm => exact name ht
    | tt => show Sp K ext Atom.tt.str _; rw [Atom.str_tt]; exact name (validName_letters hK)
    | ff => show Sp K ext Atom.ff.str _; rw [Atom.str_ff]; exact name (validName_letters hK)
    | var v => exact Sp.var v [] [] ht Sp.nil
    | wild v => exact Sp.wild v [] [] (hx.resolve_right (fun h => h)) ht Sp.nil
  | un o c ih =>
    intro ht hx
    have ihc := ih ht hx
    by_cases ho : o = .not
    · subst ho
      exact grp (Sp.not _ _ ihc)
    · obtain ⟨a, b, hab, htab⟩ := unop_str o ho
      have : (Tree.un o c).render = '(' :: ((o.str ++ ' ' :: c.render) ++ [')']) := by
        cases o <;> first | exact absurd rfl ho | rfl
      rw [this, hab]
      exact grp (Sp.temp a b _ _ _ htab (sepsp _) (sp ihc))
  | bin o l r ihl ihr =>
    intro ht hx
    have il := ihl ht.1 (hx.imp id (fun h => h.1))
    have ir := ihr ht.2 (hx.imp id (fun h => h.2))
    have hop : Sp K ext (o.str ++ ' ' :: r.render) (.bin o :: canonToks r) := by
      rcases binop_str o with hsym | ⟨a, b, hab, htab⟩
      · exact Sp.binsym o _ _ hsym (sp ir)
      · rw [hab]; exact Sp.temp a b _ _ _ htab (sepsp _) (sp ir)
    have : (Tree.bin o l r).render = '(' :: ((l.render ++ ' ' :: (o.str ++ ' ' :: r.render)) ++ [')']) := by
      show '(' :: (l.render ++ ' ' :: o.str ++ ' ' :: r.render ++ [')']) = _
      simp only [List.append_assoc, List.cons_append]
    rw [this]
    exact grp (Sp.append il (sp hop) (sepsp _))
  | hyb o v d c ih =>
    intro ht hx
    obtain ⟨hv, hd, hc⟩ := ht
    have ihc := ih hc (hx.imp id (fun h => h.2))
    have hr : ∀ seg, '{' :: (v ++ '}' :: (domStr d ++ [':'])) = seg →
        (Tree.hyb o v d c).render = '(' :: ((o.str ++ (seg ++ ' ' :: c.render)) ++ [')']) := by
      intro seg hseg
      subst hseg
      show '(' :: (o.str ++ '{' :: v ++ '}' :: domStr d ++ ':' :: ' ' :: c.render ++ [')']) = _
      simp only [List.append_assoc, List.cons_append, List.nil_append]
    cases d with
    | none =>
      have hseg : Seg K (if o = .jump then false else ext) ('{' :: (v ++ '}' :: [':'])) v none :=
        Seg.plain _ [] [] v (fun _ h => by cases h) (fun _ h => by cases h) hv
      rw [hr _ rfl]
      exact grp (Sp.hybShort o _ v none _ _ hseg (sp ihc))
    | some dn =>
      have hext : ext = true := hx.resolve_right (fun h => by cases h.1)
      have hpd : (if o = .jump then false else ext) = true := by rw [if_neg hd.1, hext]
      have hw : AllWs K [' '] := fun c h => by rw [List.mem_singleton.mp h]; exact hK.space_ws
      have hseg : Seg K (if o = .jump then false else ext)
          ('{' :: (v ++ '}' :: ([' '] ++ 'i' :: 'n' :: ([' '] ++ '%' :: (dn ++ '%' :: [':']))))) v (some dn) := by
        rw [hpd]
        exact Seg.dom [] [' '] [' '] [] v dn (fun _ h => by cases h) hw hw (fun _ h => by cases h) hv hd.2
      have hs : '{' :: (v ++ '}' :: (domStr (some dn) ++ [':'])) =
          '{' :: (v ++ '}' :: ([' '] ++ 'i' :: 'n' :: ([' '] ++ '%' :: (dn ++ '%' :: [':'])))) := by
        rw [domStr_some]
        simp only [List.append_assoc, List.cons_append, List.nil_append]
      rw [hr _ hs]
      exact grp (Sp.hybShort o _ v (some dn) _ _ hseg (sp ihc))

variable (hK : CharsOK K) (ext : Bool)
include hK

/-- C06, the lexing half of the round trip; the plain tokenizer does it for trees without wild-cards and domains. -/
theorem tokenize_render (t : Tree) (ht : TreeOK K t) (hx : ext = true ∨ Plain t) :
    tokenize K ext t.render = .ok (canonToks t) :=
  lex_complete hK ext _ _ (Sp.render hK ext t ht hx)

end Lex
end Hctl
