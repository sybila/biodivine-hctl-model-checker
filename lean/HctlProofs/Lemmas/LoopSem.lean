/-
  The `while old != new` loops: `eval_eg` computes the greatest fixed point (E-globally), `eval_au` the least
  (A-until).  By `whileNe_fix` the result is an iterate that the body leaves unchanged; what holds of all iterates
  is shown by induction over `Iter`.  Then every temporal operator in the path form of `sat`.
-/
import HctlProofs.Lemmas.EuSem
import HctlProofs.Lemmas.Laws
namespace Hctl
open Kripke

/-- the bodies of the `eval_eg` / `eval_au` loops -/
def egF (E : Env) (steady : CSet) : CSet → CSet := fun old => old.inter (Ops.evalEx E old steady)

def auF (E : Env) (U phi1 steady : CSet) : CSet → CSet :=
  fun old => old.union (phi1.inter (Ops.evalAx E U old steady))

theorem evalEg_eq (E : Env) (a st : CSet) :
    Ops.evalEg E a st = Ops.whileNe E (egF E st) (E.pts.length + 2) a CSet.empty := rfl

theorem evalAu_eq (E : Env) (U a b st : CSet) :
    Ops.evalAu E U a b st = Ops.whileNe E (auF E U a st) (E.pts.length + 2) b CSet.empty := rfl

section loops
variable {E : Env} (hE : EnvOK E) (hG : GraphWF E.G)
include hE hG

theorem sem_eg {U0 st U a : CSet} {d : Nat} {φ : Point → Prop} (hU : UnitOK E U0 st U d) (ha : Sem E a U φ) :
    Sem E (Ops.evalEg E a st) U
      (fun p => EGc (E.G.R p.c) (fun t => φ (p.setS t)) p.s) := by
  have hdefl : ∀ x, SubOn E.pts (E.tab (egF E st x)) x :=
    fun x q hq h => by rw [hE.tab_ok _ q hq] at h; exact ((CSet.mem_inter ..).mp h).1
  have hsub : ∀ x, Iter (fun x => E.tab (egF E st x)) a x → SubOn E.pts x a := by
    intro x hx
    induction hx with
    | base => exact SubOn.refl a
    | step _ ih => exact SubOn.trans (hdefl _) ih
  have hsub0 : ∀ x, Iter (fun x => E.tab (egF E st x)) a x → ∀ q ∈ E.pts, x q = true → U0 q = true :=
    fun x hx q hq h => hU.sub0 q hq (ha.sub q hq (hsub x hx q hq h))
  obtain ⟨y, hy, hres, hfix⟩ := Ops.whileNe_fix E (egF E st) a (.inl hdefl)
    fun h0 => SubOn.antisymm (hdefl a) fun q hq h => by rw [h0 q hq] at h; cases h
  intro p hp
  have hps := hE.s_lt hp
  rw [evalEg_eq, hres p hp]
  constructor
  · -- `y = y ∩ EX y`: the slice of `y` at `p` lies inside φ and every state of it has a successor in it
    intro hyp
    refine ⟨ha.sub p hp (hsub y hy p hp hyp), fun t => t < E.G.nS ∧ y (p.setS t) = true, ⟨hps, hyp⟩, ?_⟩
    rintro x ⟨hx, hyx⟩
    have hq := hE.setS_mem hp hx
    have hpost := hfix _ hq
    rw [hE.tab_ok _ _ hq, hyx] at hpost
    obtain ⟨t, hR, hyt⟩ := (mem_evalEx hU.steady (hsub0 y hy) hq).mp ((CSet.mem_inter ..).mp hpost).2
    exact ⟨((ha _ hq).mp (hsub y hy _ hq hyx)).2, t, hR, R_lt hE hG hq hR, hyt⟩
  · -- every iterate contains the slice of a witness `X` of EG
    rintro ⟨hu, X, hXs, hX⟩
    have hinv : ∀ x, Iter (fun x => E.tab (egF E st x)) a x → ∀ t, t < E.G.nS → X t → x (p.setS t) = true := by
      intro x hx
      induction hx with
      | base =>
        intro t ht hXt
        exact (ha _ (hE.setS_mem hp ht)).mpr ⟨by rw [hU.stateIndep p hp t ht]; exact hu, (hX t hXt).1⟩
      | @step x hx ih =>
        intro t ht hXt
        have hq := hE.setS_mem hp ht
        obtain ⟨_, t', hR, hXt'⟩ := hX t hXt
        rw [hE.tab_ok _ _ hq]
        exact (CSet.mem_inter ..).mpr ⟨ih t ht hXt,
          (mem_evalEx hU.steady (hsub0 x hx) hq).mpr ⟨t', hR, ih t' (R_lt hE hG hq hR) hXt'⟩⟩
    exact hinv y hy p.s hps hXs

theorem sem_au {U0 st U a b : CSet} {d : Nat} {φ ψ : Point → Prop} (hU : UnitOK E U0 st U d)
    (ha : Sem E a U φ) (hb : Sem E b U ψ) :
    Sem E (Ops.evalAu E U a b st) U
      (fun p => AUi (E.G.R p.c) (fun t => φ (p.setS t)) (fun t => ψ (p.setS t)) p.s) := by
  have hinfl : ∀ x, SubOn E.pts x (E.tab (auF E U a st x)) :=
    fun x q hq h => by rw [hE.tab_ok _ q hq]; exact (CSet.mem_union ..).mpr (Or.inl h)
  -- soundness is an invariant of the iterates
  have hsound : ∀ x, Iter (fun x => E.tab (auF E U a st x)) b x → ∀ q ∈ E.pts, x q = true →
      U q = true ∧ AUi (E.G.R q.c) (fun t => φ (q.setS t)) (fun t => ψ (q.setS t)) q.s := by
    intro x hx
    induction hx with
    | base => exact fun q hq h => ⟨((hb q hq).mp h).1, AUi.here ((hb q hq).mp h).2⟩
    | @step x _ ih =>
      intro q hq h
      rw [hE.tab_ok _ q hq] at h
      rcases (CSet.mem_union ..).mp h with h | h
      · exact ih q hq h
      · obtain ⟨haq, hax⟩ := (CSet.mem_inter ..).mp h
        have hax := (mem_evalAx hE hG hU (fun r hr hh => (ih r hr hh).1) hq).mp hax
        exact ⟨hax.1, AUi.step ((ha q hq).mp haq).2
          fun t hR => (ih _ (hE.setS_mem hq (R_lt hE hG hq hR)) (hax.2 t hR)).2⟩
  obtain ⟨y, hy, hres, hfix⟩ := Ops.whileNe_fix E (auF E U a st) b (.inr hinfl) (by
    -- AX ∅ = ∅ (every state has a successor), so the body leaves an empty `b` unchanged
    intro h0 q hq
    rw [hE.tab_ok _ q hq]
    apply Bool.eq_iff_iff.mpr
    refine (CSet.mem_union ..).trans ⟨fun h => h.elim id fun h => ?_, Or.inl⟩
    have hax := (mem_evalAx hE hG hU (fun r hr hh => by rw [h0 r hr] at hh; cases hh) hq).mp
      ((CSet.mem_inter ..).mp h).2
    obtain ⟨t, hR⟩ := total_R E.G q.c q.s
    have := hax.2 t hR
    rw [h0 _ (hE.setS_mem hq (R_lt hE hG hq hR))] at this
    cases this)
  have hby : SubOn E.pts b y := by
    clear hres hfix
    induction hy with
    | base => exact SubOn.refl b
    | step _ ih => exact SubOn.trans ih (hinfl _)
  intro p hp
  have hps := hE.s_lt hp
  rw [evalAu_eq, hres p hp]
  refine ⟨hsound y hy p hp, ?_⟩
  -- `y ⊇ b` is closed under the body: it contains the least fixed point
  rintro ⟨hu, hau⟩
  have key : ∀ s, AUi (E.G.R p.c) (fun t => φ (p.setS t)) (fun t => ψ (p.setS t)) s →
      s < E.G.nS → y (p.setS s) = true := by
    intro s h
    induction h with
    | @here s hψ =>
      intro hs
      have hq := hE.setS_mem hp hs
      exact hby _ hq ((hb _ hq).mpr ⟨by rw [hU.stateIndep p hp s hs]; exact hu, hψ⟩)
    | @step s hφ _ ih =>
      intro hs
      have hq := hE.setS_mem hp hs
      have huq : U (p.setS s) = true := by rw [hU.stateIndep p hp s hs]; exact hu
      rw [← hfix _ hq, hE.tab_ok _ _ hq]
      exact (CSet.mem_union ..).mpr (Or.inr ((CSet.mem_inter ..).mpr ⟨(ha _ hq).mpr ⟨huq, hφ⟩,
        (mem_evalAx hE hG hU (fun q hq h => (hsound y hy q hq h).1) hq).mpr
          ⟨huq, fun t hR => ih t hR (R_lt hE hG hq hR)⟩⟩))
  exact key p.s hau hps

theorem sem_ef {U0 st U a : CSet} {d : Nat} {φ : Point → Prop} (hU : UnitOK E U0 st U d) (ha : Sem E a U φ) :
    Sem E (Ops.evalEfSat E U a) U (fun p => ∃ π : Path (E.G.R p.c) p.s, ∃ i, φ (p.setS (π.π i))) :=
  (sem_eu hE hG hU sem_unit ha).iff (fun p _ _ => (ef_path_iff (total_R E.G p.c) (fun t => φ (p.setS t)) p.s).symm)

theorem sem_eu_path {U0 st U a b : CSet} {d : Nat} {φ ψ : Point → Prop} (hU : UnitOK E U0 st U d)
    (ha : Sem E a U φ) (hb : Sem E b U ψ) :
    Sem E (Ops.evalEuSat E a b) U (fun p => ∃ π : Path (E.G.R p.c) p.s,
      untilOn (fun t => φ (p.setS t)) (fun t => ψ (p.setS t)) π.π) :=
  (sem_eu hE hG hU ha hb).iff (fun p _ _ => (eu_path_iff (total_R E.G p.c) _ _ p.s).symm)

theorem sem_au_path {U0 st U a b : CSet} {d : Nat} {φ ψ : Point → Prop} (hU : UnitOK E U0 st U d)
    (ha : Sem E a U φ) (hb : Sem E b U ψ) :
    Sem E (Ops.evalAu E U a b st) U (fun p => ∀ π : Path (E.G.R p.c) p.s,
      untilOn (fun t => φ (p.setS t)) (fun t => ψ (p.setS t)) π.π) :=
  (sem_au hE hG hU ha hb).iff (fun p _ _ => (au_path_iff (total_R E.G p.c) _ _ p.s).symm)

theorem sem_eg_path {U0 st U a : CSet} {d : Nat} {φ : Point → Prop} (hU : UnitOK E U0 st U d) (ha : Sem E a U φ) :
    Sem E (Ops.evalEg E a st) U
      (fun p => ∃ π : Path (E.G.R p.c) p.s, ∀ i, φ (p.setS (π.π i))) :=
  (sem_eg hE hG hU ha).iff (fun p _ _ => (eg_path_iff (fun t => φ (p.setS t)) p.s).symm)

theorem sem_af {U0 st U a : CSet} {d : Nat} {φ : Point → Prop} (hU : UnitOK E U0 st U d) (ha : Sem E a U φ) :
    Sem E (Ops.evalAf E U a st) U
      (fun p => ∀ π : Path (E.G.R p.c) p.s, ∃ i, φ (p.setS (π.π i))) :=
  (sem_neg (sem_eg hE hG hU (sem_neg ha))).iff
    (fun p _ _ => (af_path_iff (fun t => φ (p.setS t)) p.s).symm)

theorem sem_ag {U0 st U a : CSet} {d : Nat} {φ : Point → Prop} (hU : UnitOK E U0 st U d) (ha : Sem E a U φ) :
    Sem E (Ops.evalAg E U a) U
      (fun p => ∀ π : Path (E.G.R p.c) p.s, ∀ i, φ (p.setS (π.π i))) :=
  (sem_neg (sem_eu hE hG hU sem_unit (sem_neg ha))).iff
    (fun p _ _ => (ag_path_iff (total_R E.G p.c) (fun t => φ (p.setS t)) p.s).symm)

theorem sem_ew {U0 st U a b : CSet} {d : Nat} {φ ψ : Point → Prop} (hU : UnitOK E U0 st U d)
    (ha : Sem E a U φ) (hb : Sem E b U ψ) :
    Sem E (Ops.evalEw E U a b st) U (fun p => ∃ π : Path (E.G.R p.c) p.s,
      untilOn (fun t => φ (p.setS t)) (fun t => ψ (p.setS t)) π.π ∨ ∀ i, φ (p.setS (π.π i))) :=
  (sem_neg (sem_au hE hG hU (sem_neg hb) (sem_and (sem_neg ha) (sem_neg hb)))).iff
    (fun p _ _ => (ew_path_iff (total_R E.G p.c) (fun t => φ (p.setS t)) (fun t => ψ (p.setS t)) p.s).symm)

theorem sem_aw {U0 st U a b : CSet} {d : Nat} {φ ψ : Point → Prop} (hU : UnitOK E U0 st U d)
    (ha : Sem E a U φ) (hb : Sem E b U ψ) :
    Sem E (Ops.evalAw E U a b) U (fun p => ∀ π : Path (E.G.R p.c) p.s,
      untilOn (fun t => φ (p.setS t)) (fun t => ψ (p.setS t)) π.π ∨ ∀ i, φ (p.setS (π.π i))) :=
  (sem_neg (sem_eu hE hG hU (sem_neg hb) (sem_and (sem_neg ha) (sem_neg hb)))).iff
    (fun p _ _ => (aw_path_iff (total_R E.G p.c) (fun t => φ (p.setS t)) (fun t => ψ (p.setS t)) p.s).symm)

end loops

end Hctl
