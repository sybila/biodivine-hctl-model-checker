/-
  The maps of `EvalContext` as association lists (cache, duplicate counters), and `free_var_domains` while the
  depth-named quantifiers `x, xx, …` are open.
-/
import HctlProofs.Lemmas.Scoping
import HctlProofs.Lemmas.Assoc
namespace Hctl

abbrev Cache := List (Key × (CSet × List (Name × Name)))

theorem cacheGet_eq_lookup (k : Key) (c : Cache) : cacheGet k c = c.lookup k := by
  induction c with
  | nil => rfl
  | cons e c ih =>
    obtain ⟨k', v⟩ := e
    rw [lookup_cons_eq, ← ih]
    unfold cacheGet
    by_cases h : k = k'
    · subst h; simp
    · simp [beq_eq_false_iff_ne.mpr (Ne.symm h), h]

theorem cacheGet_insert (k k0 : Key) (v : CSet × List (Name × Name)) (c : Cache) :
    cacheGet k (cacheInsert k0 v c) = if k = k0 then some v else cacheGet k c := by
  rw [cacheGet_eq_lookup, cacheGet_eq_lookup]
  exact lookup_insert k k0 v c

theorem cacheGet_remove (k k0 : Key) (c : Cache) :
    cacheGet k (cacheRemove k0 c) = if k = k0 then none else cacheGet k c := by
  rw [cacheGet_eq_lookup, cacheGet_eq_lookup]
  split
  · next h => rw [h]; exact lookup_filter_self k0 c
  · next h => exact lookup_filter_ne h c

theorem dupGet_cons (k k' : Key) (n : Int) (m : DupMap) :
    dupGet k ((k', n) :: m) = if k = k' then some n else dupGet k m :=
  lookup_cons_eq k k' n m

/-- `dupSet` overwrites in place or appends; read back, it is an insertion -/
theorem dupGet_set (k k0 : Key) (n : Int) (m : DupMap) :
    dupGet k (dupSet k0 n m) = if k = k0 then some n else dupGet k m := by
  induction m with
  | nil => exact dupGet_cons k k0 n []
  | cons e m ih =>
    obtain ⟨k', n'⟩ := e
    rw [dupSet]
    by_cases h0 : k0 = k'
    · subst h0
      rw [if_pos rfl, dupGet_cons, dupGet_cons]
      by_cases hk : k = k0
      · rw [if_pos hk, if_pos hk]
      · rw [if_neg hk, if_neg hk, if_neg hk]
    · rw [if_neg h0, dupGet_cons, dupGet_cons, ih]
      by_cases hk : k = k'
      · rw [if_pos hk, if_pos hk, if_neg (hk ▸ Ne.symm h0)]
      · rw [if_neg hk, if_neg hk]

theorem dupGet_set_isSome_iff (k k0 : Key) (n : Int) (m : DupMap) :
    (dupGet k (dupSet k0 n m)).isSome = true ↔ k = k0 ∨ (dupGet k m).isSome = true := by
  rw [dupGet_set]
  by_cases hk : k = k0 <;> simp [hk]

theorem dupGet_remove (k k0 : Key) (m : DupMap) :
    dupGet k (dupRemove k0 m) = if k = k0 then none else dupGet k m := by
  split
  · next h => rw [h]; exact lookup_filter_self k0 m
  · next h => exact lookup_filter_ne h m

theorem nameLt_xs (a b : Nat) : nameLt (xs a) (xs b) = decide (a < b) := by
  induction a generalizing b with
  | zero => cases b <;> simp [xs, nameLt, List.replicate]
  | succ a ih =>
    cases b with
    | zero => simp [xs, nameLt, List.replicate]
    | succ b =>
      have := ih b
      simp only [xs, List.replicate_succ, nameLt] at this ⊢
      simp [this]

theorem fvdFrom_append (i : Nat) (ds : List (Option Name)) (o : Option Name) :
    fvdFrom i (ds ++ [o]) = fvdFrom i ds ++ [(xs (i + ds.length + 1), o)] := by
  induction ds generalizing i with
  | nil => simp [fvdFrom]
  | cons d ds ih =>
    simp only [List.cons_append, fvdFrom, List.length_cons, ih (i + 1)]
    have : i + 1 + ds.length + 1 = i + (ds.length + 1) + 1 := by omega
    rw [this]

theorem mem_fvdFrom (e : Name × Option Name) : ∀ (k : Nat) (ds : List (Option Name)),
    e ∈ fvdFrom k ds ↔ ∃ j, ds[j]? = some e.2 ∧ e.1 = xs (k + j + 1) := by
  intro k ds
  induction ds generalizing k with
  | nil => simp [fvdFrom]
  | cons d ds ih =>
    rw [fvdFrom, List.mem_cons, ih (k + 1)]
    constructor
    · rintro (rfl | ⟨j, hj, he⟩)
      · exact ⟨0, rfl, rfl⟩
      · exact ⟨j + 1, hj, by rw [he, show k + 1 + j + 1 = k + (j + 1) + 1 by omega]⟩
    · rintro ⟨j, hj, he⟩
      cases j with
      | zero => exact Or.inl (Prod.ext he (Option.some.inj hj).symm)
      | succ j => exact Or.inr ⟨j, hj, by rw [he, show k + 1 + j + 1 = k + (j + 1) + 1 by omega]⟩

theorem domInsert_fvdFrom (i : Nat) (ds : List (Option Name)) (o : Option Name) :
    domInsert (xs (i + ds.length + 1)) o (fvdFrom i ds) = fvdFrom i (ds ++ [o]) := by
  induction ds generalizing i with
  | nil => simp [fvdFrom, domInsert]
  | cons d ds ih =>
    simp only [fvdFrom, domInsert, List.cons_append, List.length_cons]
    have hne : xs (i + (ds.length + 1) + 1) ≠ xs (i + 1) := fun h => by have := xs_inj h; omega
    have hlt : nameLt (xs (i + (ds.length + 1) + 1)) (xs (i + 1)) = false := by
      rw [nameLt_xs]; simp
    simp only [hne, hlt, if_false, Bool.false_eq_true]
    have := ih (i + 1)
    rw [show i + 1 + ds.length + 1 = i + (ds.length + 1) + 1 by omega] at this
    rw [this]

theorem domInsert_fvdOf (ds : List (Option Name)) (o : Option Name) :
    domInsert (xs (ds.length + 1)) o (fvdOf ds) = fvdOf (ds ++ [o]) := by
  have := domInsert_fvdFrom 0 ds o
  simpa [fvdOf] using this

theorem domRemove_fvdOf (ds : List (Option Name)) (o : Option Name) :
    domRemove (xs (ds.length + 1)) (fvdOf (ds ++ [o])) = fvdOf ds := by
  simp only [fvdOf, fvdFrom_append, domRemove, List.filter_append, Nat.zero_add]
  have h1 : (fvdFrom 0 ds).filter (fun e => e.1 != xs (ds.length + 1)) = fvdFrom 0 ds := by
    apply List.filter_eq_self.mpr
    intro e he
    obtain ⟨j, hj, hej⟩ := (mem_fvdFrom e 0 ds).mp he
    have := (List.getElem?_eq_some_iff.mp hj).1
    simp only [bne_iff_ne, ne_eq, hej]
    intro hh
    have := xs_inj hh
    omega
  rw [h1]
  simp

theorem fvdOf_get (ds : List (Option Name)) (i : Nat) (o : Option Name) :
    (xs (i + 1), o) ∈ fvdOf ds ↔ ds[i]? = some o := by
  rw [fvdOf, mem_fvdFrom]
  constructor
  · rintro ⟨j, hj, he⟩
    have := xs_inj he
    rw [show i = j by omega]
    exact hj
  · intro h
    exact ⟨i, h, by rw [Nat.zero_add]⟩

theorem lookup_reverse_fvdOf (ds : List (Option Name)) (i : Nat) : (fvdOf ds).reverse.lookup (xs (i + 1)) = ds[i]? := by
  cases hl : (fvdOf ds).reverse.lookup (xs (i + 1)) with
  | some o => exact ((fvdOf_get ds i o).mp (List.mem_reverse.mp (mem_of_lookup hl))).symm
  | none =>
    cases hd : ds[i]? with
    | none => rfl
    | some o => exact absurd hl (lookup_ne_none_of_mem (List.mem_reverse.mpr ((fvdOf_get ds i o).mpr hd)))

end Hctl
