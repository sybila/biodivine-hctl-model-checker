/-
  The tokenizer one token at a time: `lexTok` is the non-recursive part of `lexRec`, and `lexRec` emits its token and
  goes on, or skips white space, closes or opens a group (`lexRec_cons`).  A property of the tokenizer is a property
  of `lexTok` lifted through the five cases of `lexRec_induct`.
-/
import HctlProofs.Spec.Lexical
namespace Hctl
namespace Lex
variable {K : CharClass}

theorem hybOfLong_eq_some {nm : Name} {o : HybOp} : hybOfLong nm = some o ↔
    nm = match o with
      | .ex => ['e','x','i','s','t','s'] | .all => ['f','o','r','a','l','l'] | .bind => ['b','i','n','d']
      | .jump => ['j','u','m','p'] := by
  -- as character lists first: `decide` and `simp` are slow on `"exists".toList`
  have e1 : "exists".toList = ['e','x','i','s','t','s'] := String.toList_ofList
  have e2 : "forall".toList = ['f','o','r','a','l','l'] := String.toList_ofList
  have e3 : "bind".toList = ['b','i','n','d'] := String.toList_ofList
  have e4 : "jump".toList = ['j','u','m','p'] := String.toList_ofList
  unfold hybOfLong
  rw [e1, e2, e3, e4]
  constructor
  · intro h
    split at h
    · cases h; assumption
    split at h
    · cases h; assumption
    split at h
    · cases h; assumption
    split at h
    · cases h; assumption
    · cases h
  · intro h
    subst h
    cases o <;> rfl

theorem expect_some {ch : Char} {cs r : List Char} (h : expect ch cs = some r) : cs = ch :: r := by
  cases cs with
  | nil => simp [expect] at h
  | cons c cs =>
    simp only [expect] at h
    split at h
    · rename_i hc; cases h; rw [hc]
    · cases h

theorem cons_ok {t : Tok} {x : Except LErr (List Tok × List Char)} {ts : List Tok} {r : List Char}
    (h : cons t x = .ok (ts, r)) : ∃ ts', x = .ok (ts', r) ∧ ts = t :: ts' := by
  cases x with
  | error e => cases h
  | ok p => cases h; exact ⟨_, rfl, rfl⟩

/-- `hybrid` of `lexRec`, after the operator's spelling -/
def hybTok (K : CharClass) (ext : Bool) (o : HybOp) (rest : List Char) : Option (Tok × List Char) :=
  match collectVarDom K (if o = .jump then false else ext) rest with
  | some (v, d, rest') => some (.hyb o v d, rest')
  | none => none

/-- `name` of `lexRec`: a proposition name whose first characters `pre` have been read -/
def nameTok (K : CharClass) (pre rest : List Char) : Tok × List Char :=
  (.atom (.prop (pre ++ (collectName K rest).1)), (collectName K rest).2)

/-- an identifier up to the closing delimiter: `{var}`, `%wild%` -/
def delimTok (K : CharClass) (close : Char) (mk : Name → Atom) (cs : List Char) : Option (Tok × List Char) :=
  if (collectName K cs).1.isEmpty then none else
  match expect close (collectName K cs).2 with
  | some rest' => some (.atom (mk (collectName K cs).1), rest')
  | none => none

/-- The chain of alternatives of `lexRec` with the token and the unread rest as result; `none` where `lexRec` skips a
character, opens or closes a group, or fails. -/
def lexTok (K : CharClass) (ext : Bool) : List Char → Option (Tok × List Char)
  | [] => none
  | c :: cs =>
    if K.isWs c then none
    else if c = '~' then some (.un .not, cs)
    else if c = '&' then some (.bin .and, cs)
    else if c = '|' then some (.bin .or, cs)
    else if c = '^' then some (.bin .xor, cs)
    else if c = '=' then
      match cs with
      | '>' :: cs' => some (.bin .imp, cs')
      | _ => none
    else if c = '<' then
      match cs with
      | '=' :: '>' :: cs' => some (.bin .iff, cs')
      | _ => none
    else if c = '>' then none
    else if (c = 'E' || c = 'A') && isTempOp cs.head? then
      match cs with
      | c2 :: cs' =>
        if nextIsName K cs' then some (nameTok K [c, c2] cs')
        else match tempUn c c2 with
          | some t => some (t, cs')
          | none => none
      | [] => none
    else if c = '!' then hybTok K ext .bind cs
    else if c = '3' && !nextIsName K cs then hybTok K ext .ex cs
    else if c = 'V' && !nextIsName K cs then hybTok K ext .all cs
    else if c = '@' then hybTok K ext .jump cs
    else if c = '\\' then
      match hybOfLong (collectName K cs).1 with
      | some o => hybTok K ext o (collectName K cs).2
      | none => none
    else if c = ')' then none
    else if c = '(' then none
    else if c = '{' then delimTok K '}' .var cs
    else if c = '%' && ext then delimTok K '%' .wild cs
    else if isName K c then some (nameTok K [c] cs)
    else none

/-! Each of the three lemmas takes the first `if` off a chain of alternatives (`ite_elim`, `ite_imp2`: off two chains
with the same conditions).  Rewriting with `if_pos`/`if_neg` instead traverses the rest of the chain at every step. -/

theorem ite_elim {α β : Type} {p : Prop} [Decidable p] {A B : β} {a b : Option α} {D : β} {f : α → β}
    (hp : p → A = a.elim D f) (hn : ¬ p → B = b.elim D f) :
    (if p then A else B) = (if p then a else b).elim D f := by
  by_cases h : p
  · rw [if_pos h, if_pos h]; exact hp h
  · rw [if_neg h, if_neg h]; exact hn h

theorem ite_imp {α : Type} {p : Prop} [Decidable p] {A B x : α} {Q : Prop} (hp : p → A = x → Q) (hn : ¬ p → B = x → Q) :
    (if p then A else B) = x → Q := by
  by_cases h : p
  · rw [if_pos h]; exact hp h
  · rw [if_neg h]; exact hn h

theorem ite_imp2 {α : Type} {p : Prop} [Decidable p] {A B A' B' x : α} {Q : Prop}
    (hp : p → A = x → A' = x ∧ Q) (hn : ¬ p → B = x → B' = x ∧ Q) :
    (if p then A else B) = x → (if p then A' else B') = x ∧ Q := by
  by_cases h : p
  · rw [if_pos h, if_pos h]; exact hp h
  · rw [if_neg h, if_neg h]; exact hn h

/-- what `lexRec` does on `c :: cs` where `lexTok` finds no token -/
def lexOther (K : CharClass) (ext : Bool) (n : Nat) (top : Bool) (c : Char) (cs : List Char) :
    Except LErr (List Tok × List Char) :=
  if K.isWs c then lexRec K ext n top cs
  else if c = ')' then (if !top then .ok ([], cs) else .error .lex)
  else if c = '(' then
    match lexRec K ext n false cs with
    | .ok (grp, rest) => cons (.group grp) (lexRec K ext n top rest)
    | .error e => .error e
  else .error .lex

theorem lexOther_fail {ext : Bool} {n : Nat} {top : Bool} {c : Char} {cs : List Char} (h1 : ¬ K.isWs c = true)
    (h2 : c ≠ ')' ∧ c ≠ '(') : .error .lex = lexOther K ext n top c cs := by
  rw [lexOther, if_neg h1, if_neg h2.1, if_neg h2.2]

private theorem not_paren {c d : Char} (h : c = d) (h2 : d ≠ ')' := by decide) (h3 : d ≠ '(' := by decide) :
    c ≠ ')' ∧ c ≠ '(' := h ▸ ⟨h2, h3⟩

theorem lexRec_cons (ext : Bool) (n : Nat) (top : Bool) (c : Char) (cs : List Char) :
    lexRec K ext (n + 1) top (c :: cs) =
      (lexTok K ext (c :: cs)).elim (lexOther K ext n top c cs) (fun p => cons p.1 (lexRec K ext n top p.2)) := by
  have hyb : ∀ {D : Except LErr (List Tok × List Char)} (o : HybOp) (pd : Bool) (rest : List Char)
      (hpd : pd = (if o = .jump then false else ext)) (hD : .error .lex = D),
      (match collectVarDom K pd rest with
        | some (v, d, rest') => cons (.hyb o v d) (lexRec K ext n top rest')
        | none => .error .lex) = (hybTok K ext o rest).elim D (fun p => cons p.1 (lexRec K ext n top p.2)) := by
    intro D o pd rest hpd hD
    subst hpd hD
    unfold hybTok
    cases collectVarDom K (if o = .jump then false else ext) rest with
    | none => rfl
    | some p => rfl
  have delim : ∀ {D : Except LErr (List Tok × List Char)} (close : Char) (mk : Name → Atom) (hD : .error .lex = D),
      (if (collectName K cs).1.isEmpty then .error .lex else
        match expect close (collectName K cs).2 with
        | some rest' => cons (.atom (mk (collectName K cs).1)) (lexRec K ext n top rest')
        | none => .error .lex) = (delimTok K close mk cs).elim D (fun p => cons p.1 (lexRec K ext n top p.2)) := by
    intro D close mk hD
    subst hD
    unfold delimTok
    by_cases he : (collectName K cs).1.isEmpty = true
    · rw [if_pos he, if_pos he]; rfl
    rw [if_neg he, if_neg he]
    cases expect close (collectName K cs).2 with
    | none => rfl
    | some r => rfl
  -- `unfold`, since the equation lemmas of `lexRec` are dear to generate
  conv => lhs; unfold lexRec
  dsimp only
  refine ite_elim (fun h1 => by rw [lexOther, if_pos h1]; rfl) (fun h1 => ?_)
  refine ite_elim (fun _ => rfl) (fun _ => ?_)
  refine ite_elim (fun _ => rfl) (fun _ => ?_)
  refine ite_elim (fun _ => rfl) (fun _ => ?_)
  refine ite_elim (fun _ => rfl) (fun _ => ?_)
  refine ite_elim (fun h => ?_) (fun _ => ?_)
  · split
    · rfl
    · split
      · simp_all
      · exact lexOther_fail h1 (not_paren h)
  refine ite_elim (fun h => ?_) (fun _ => ?_)
  · split
    · rfl
    · split
      · simp_all
      · exact lexOther_fail h1 (not_paren h)
  refine ite_elim (fun h => lexOther_fail h1 (not_paren h)) (fun _ => ?_)
  refine ite_elim (fun h => ?_) (fun _ => ?_)
  · have hc : c ≠ ')' ∧ c ≠ '(' := by
      simp only [Bool.and_eq_true, Bool.or_eq_true, decide_eq_true_eq] at h
      rcases h.1 with rfl | rfl <;> decide
    cases cs with
    | nil => exact lexOther_fail h1 hc
    | cons c2 cs' =>
      cases cs' with
      | nil =>
        simp only [show nextIsName K [] = false from rfl, Bool.false_eq_true, if_false]
        cases tempUn c c2 with
        | none => exact lexOther_fail h1 hc
        | some t => rfl
      | cons c3 tl =>
        refine ite_elim (fun _ => rfl) (fun _ => ?_)
        cases tempUn c c2 with
        | none => exact lexOther_fail h1 hc
        | some t => rfl
  refine ite_elim (fun h => ?_) (fun _ => ?_)
  · exact hyb .bind ext cs rfl (lexOther_fail h1 (not_paren h))
  refine ite_elim (fun h => ?_) (fun _ => ?_)
  · have hc : c = '3' := by simp only [Bool.and_eq_true, decide_eq_true_eq] at h; exact h.1
    exact hyb .ex ext cs rfl (lexOther_fail h1 (not_paren hc))
  refine ite_elim (fun h => ?_) (fun _ => ?_)
  · have hc : c = 'V' := by simp only [Bool.and_eq_true, decide_eq_true_eq] at h; exact h.1
    exact hyb .all ext cs rfl (lexOther_fail h1 (not_paren hc))
  refine ite_elim (fun h => ?_) (fun _ => ?_)
  · exact hyb .jump false cs rfl (lexOther_fail h1 (not_paren h))
  refine ite_elim (fun h => ?_) (fun _ => ?_)
  · cases hybOfLong (collectName K cs).1 with
    | none => exact lexOther_fail h1 (not_paren h)
    | some o => cases o <;> exact hyb _ _ _ rfl (lexOther_fail h1 (not_paren h))
  refine ite_elim (fun h => ?_) (fun h15 => ?_)
  · rw [lexOther, if_neg h1, if_pos h]; rfl
  refine ite_elim (fun h => ?_) (fun h16 => ?_)
  · rw [lexOther, if_neg h1, if_neg h15, if_pos h]
    cases lexRec K ext n false cs with
    | error e => rfl
    | ok p => rfl
  have hD := lexOther_fail (ext := ext) (n := n) (top := top) (cs := cs) h1 ⟨h15, h16⟩
  refine ite_elim (fun _ => delim '}' .var hD) (fun _ => ?_)
  refine ite_elim (fun _ => delim '%' .wild hD) (fun _ => ?_)
  exact ite_elim (fun _ => rfl) (fun _ => hD)

variable (ext : Bool)

theorem lexRec_ws (c : Char) (hc : K.isWs c = true) (n : Nat) (top : Bool) (cs : List Char) :
    lexRec K ext (n + 1) top (c :: cs) = lexRec K ext n top cs := by
  rw [lexRec_cons]
  simp only [lexTok, lexOther, if_pos hc]
  rfl

theorem lexRec_close (hc : K.isWs ')' = false) (n : Nat) (top : Bool) (cs : List Char) :
    lexRec K ext (n + 1) top (')' :: cs) = if !top then .ok ([], cs) else .error .lex := by
  rw [lexRec_cons]
  simp [lexTok, lexOther, isTempOp, hc]

theorem lexRec_open (hc : K.isWs '(' = false) (n : Nat) (top : Bool) (cs : List Char) (grp : List Tok) (rest : List Char)
    (hg : lexRec K ext n false cs = .ok (grp, rest)) :
    lexRec K ext (n + 1) top ('(' :: cs) = cons (.group grp) (lexRec K ext n top rest) := by
  rw [lexRec_cons]
  simp [lexTok, lexOther, isTempOp, hc, hg]

theorem lexRec_tok {cs : List Char} {t : Tok} {rest : List Char} (h : lexTok K ext cs = some (t, rest)) (n : Nat) (top : Bool) :
    lexRec K ext (n + 1) top cs = cons t (lexRec K ext n top rest) := by
  cases cs with
  | nil => cases h
  | cons c cs => rw [lexRec_cons, h]; rfl

theorem lexRec_induct {ext : Bool} {motive : Nat → Bool → List Char → List Tok → List Char → Prop}
    (eof : ∀ n, motive (n + 1) true [] [] [])
    (ws : ∀ n top c cs ts r, K.isWs c = true → lexRec K ext n top cs = .ok (ts, r) → motive n top cs ts r →
      motive (n + 1) top (c :: cs) ts r)
    (close : ∀ n cs, K.isWs ')' = false → motive (n + 1) false (')' :: cs) [] cs)
    (group : ∀ n top cs grp rest ts r, K.isWs '(' = false → lexRec K ext n false cs = .ok (grp, rest) →
      motive n false cs grp rest → lexRec K ext n top rest = .ok (ts, r) → motive n top rest ts r →
      motive (n + 1) top ('(' :: cs) (.group grp :: ts) r)
    (tok : ∀ n top cs t rest ts r, lexTok K ext cs = some (t, rest) → lexRec K ext n top rest = .ok (ts, r) →
      motive n top rest ts r → motive (n + 1) top cs (t :: ts) r) :
    ∀ n top cs ts r, lexRec K ext n top cs = .ok (ts, r) → motive n top cs ts r := by
  intro n
  induction n with
  | zero => intro top cs ts r h; cases h
  | succ n ih =>
    intro top cs ts r h
    cases cs with
    | nil =>
      cases top with
      | true => cases h; exact eof n
      | false => cases h
    | cons c cs =>
      rw [lexRec_cons] at h
      cases ht : lexTok K ext (c :: cs) with
      | some p =>
        obtain ⟨t, rest⟩ := p
        rw [ht] at h
        obtain ⟨ts', hx, rfl⟩ := cons_ok h
        exact tok n top _ t rest ts' r ht hx (ih _ _ _ _ hx)
      | none =>
        rw [ht] at h
        change lexOther K ext n top c cs = _ at h
        rw [lexOther] at h
        by_cases h1 : K.isWs c = true
        · rw [if_pos h1] at h
          exact ws n top c cs ts r h1 h (ih _ _ _ _ h)
        rw [if_neg h1] at h
        have h1 : K.isWs c = false := by simpa using h1
        by_cases h2 : c = ')'
        · subst h2
          cases top with
          | true => cases h
          | false => cases h; exact close n _ h1
        rw [if_neg h2] at h
        by_cases h3 : c = '('
        · subst h3
          cases hg : lexRec K ext n false cs with
          | error e => rw [hg] at h; cases h
          | ok p =>
            obtain ⟨grp, rest⟩ := p
            rw [hg] at h
            obtain ⟨ts', hx, rfl⟩ := cons_ok h
            exact group n top cs grp rest ts' r h1 hg (ih _ _ _ _ hg) hx (ih _ _ _ _ hx)
        rw [if_neg h3] at h
        cases h

theorem lexRec_mono_le {n m : Nat} {top : Bool} {cs : List Char} {r : List Tok × List Char} (hnm : n ≤ m)
    (h : lexRec K ext n top cs = .ok r) : lexRec K ext m top cs = .ok r := by
  induction hnm with
  | refl => exact h
  | step _ ih =>
    refine lexRec_induct (motive := fun n top cs ts r => lexRec K ext (n + 1) top cs = .ok (ts, r)) ?_ ?_ ?_ ?_ ?_ _ _ _ _ _ ih
    · intro n; rfl
    · intro n top c cs ts r hc _ ih; rw [lexRec_ws ext c hc]; exact ih
    · intro n cs hc; rw [lexRec_close ext hc]; rfl
    · intro n top cs grp rest ts r hc _ ih1 _ ih2; rw [lexRec_open ext hc _ _ _ _ _ ih1, ih2]; rfl
    · intro n top cs t rest ts r ht _ ih; rw [lexRec_tok ext ht, ih]; rfl

end Lex
end Hctl
