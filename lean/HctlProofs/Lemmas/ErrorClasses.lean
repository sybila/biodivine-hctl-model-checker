/-
  C14 for the string entry points: on which inputs an error value is returned (that there is never a panic is
  `formulaeDirty_correct` / `extendedDirty_correct`).
-/
import HctlProofs.Lemmas.EntryPoints
namespace Hctl.C14

theorem lookupAll_none_iff (ctxSets : List (Name × CSet)) : ∀ (ns : List Name),
    Api.lookupAll ctxSets ns = none ↔ ∃ n ∈ ns, ctxSets.lookup n = none := by
  intro ns
  induction ns with
  | nil => simp [Api.lookupAll]
  | cons m ns ih =>
    simp only [Api.lookupAll, List.mem_cons, exists_eq_or_imp]
    cases hm : ctxSets.lookup m with
    | none => simp
    | some s =>
      cases hr : Api.lookupAll ctxSets ns with
      | none => simp only [reduceCtorEq, false_or, true_iff]; exact ih.mp hr
      | some rest =>
        simp only [reduceCtorEq, false_or, false_iff]
        intro h; rw [ih.mpr h] at hr; cases hr

def missing (ctxSets : List (Name × CSet)) (t : Tree) : Prop :=
  ∃ l, (l ∈ wildLabels t ∨ l ∈ domLabels t) ∧ ctxSets.lookup l = none

theorem ctxFor_none_iff (ext : Bool) (ctxSets : List (Name × CSet)) (t : Tree) :
    ctxFor ext ctxSets t = none ↔ ext = true ∧ missing ctxSets t := by
  have hm := mem_wildCards t ([], [])
  cases ext with
  | false => simp [ctxFor_false]
  | true =>
    have h : ctxFor true ctxSets t = none ↔ Api.lookupAll ctxSets (t.wildCards ([], [])).1 = none ∨
        Api.lookupAll ctxSets (t.wildCards ([], [])).2 = none := by
      simp only [ctxFor, if_true]
      cases Api.lookupAll ctxSets (t.wildCards ([], [])).1 <;> cases Api.lookupAll ctxSets (t.wildCards ([], [])).2 <;> simp
    rw [h, lookupAll_none_iff, lookupAll_none_iff]
    simp only [hm.1, hm.2, List.not_mem_nil, false_or, true_and, missing, or_and_right, exists_or]

variable (E : Env) (K : CharClass)

/-- `parse_and_validate(_extended)` fails exactly when some string fails on its own or — extended only — needs a context
label that has no set. -/
theorem parseAll_error_iff (ext : Bool) (ctxSets : List (Name × CSet)) : ∀ (fs : List (List Char)),
    (∃ e, Api.parseAll E K ext ctxSets fs = .error e) ↔
      ∃ f ∈ fs, (∃ e, Api.parseOne E K ext f = .error e) ∨
        (ext = true ∧ ∃ t, Api.parseOne E K ext f = .ok t ∧ missing ctxSets t) := by
  intro fs
  induction fs with
  | nil => simp [Api.parseAll]
  | cons f fs ih =>
    rw [parseAll_cons]
    simp only [List.mem_cons, exists_eq_or_imp, ← ih]
    cases hp : Api.parseOne E K ext f with
    | error e => simp
    | ok t =>
      -- `f` parses: it is to blame iff `ctxFor` is `none`; otherwise the rest of the list decides
      simp only [reduceCtorEq, exists_false, false_or, Except.ok.injEq, exists_eq_left', ← ctxFor_none_iff]
      cases hf : ctxFor ext ctxSets t with
      | none => simp
      | some pd => cases Api.parseAll E K ext ctxSets fs <;> simp

/-- A string that tokenizes and parses is an error exactly when it is ill scoped (free or re-quantified variable, unknown
proposition) or needs more variable sets than the graph has. -/
theorem error_iff (ext : Bool) (cs : List Char) (toks : List Tok) (t : Tree)
    (h1 : Lex.tokenize K ext cs = .ok toks) (h2 : parseToks toks = .ok t) :
    (∃ e, Api.parseOne E K ext cs = .error e) ↔
      (¬ Scoped (fun n => (E.G.label n).isSome) [] t ∨
        ∃ t', rename (fun n => (E.G.label n).isSome) t = .ok t' ∧ E.G.k < t'.numQuantVars) := by
  simp only [Api.parseOne, h1, h2]
  rw [← C07.rename_ok_iff]
  cases hr : rename (fun n => (E.G.label n).isSome) t with
  | error e => cases e <;> simp
  | ok t' =>
    by_cases hk : t'.numQuantVars > E.G.k <;> simp [hk]

variable {E} in
/-- the plain case of `error_iff` -/
theorem error_iff_plain (K : CharClass) (cs : List Char) (toks : List Tok) (t : Tree)
    (h1 : Lex.tokenize K false cs = .ok toks) (h2 : parseToks toks = .ok t) :
    (∃ e, Api.parseOne E K false cs = .error e) ↔
      (¬ Scoped (fun n => (E.G.label n).isSome) [] t ∨
        ∃ t', rename (fun n => (E.G.label n).isSome) t = .ok t' ∧ E.G.k < t'.numQuantVars) :=
  error_iff E K false cs toks t h1 h2

variable {C : CharClass} {E} (hC : Lex.CharsOK C) (hE : EnvOK E) (hG : GraphWF E.G) (hA : C12.GraphAsync E.G)
include hC hE hG hA

theorem batchDirty_outcome (ext : Bool) (ctxSets : List (Name × CSet)) (hctx : ∀ e ∈ ctxSets, SetSC e.2)
    (fs : List (List Char)) :
    ((∃ e, batchDirty E C ext E.G.unit0 ctxSets fs = .userError e) ↔
      ∃ e, Api.parseAll E C ext ctxSets fs = .error e) ∧
    ((∃ rs, batchDirty E C ext E.G.unit0 ctxSets fs = .ok rs) ∨
      (∃ e, batchDirty E C ext E.G.unit0 ctxSets fs = .userError e)) := by
  rcases batchDirty_correct hC hE hG hA ext ctxSets hctx fs with ⟨e, h1, h2⟩ | ⟨trees, ps, ds, rs, h1, h2, _⟩
  · exact ⟨⟨fun _ => ⟨e, h1⟩, fun _ => ⟨e, h2⟩⟩, Or.inr ⟨e, h2⟩⟩
  · rw [h1, h2]
    refine ⟨⟨?_, ?_⟩, Or.inl ⟨rs, rfl⟩⟩
    · rintro ⟨e, he⟩; cases he
    · rintro ⟨e, he⟩; cases he

/-- `model_check_multiple_extended_formulae_dirty`: an error value exactly in the listed cases, else a result. -/
theorem extended_outcome (ctxSets : List (Name × CSet)) (hctx : ∀ e ∈ ctxSets, SetSC e.2) (fs : List (List Char)) :
    ((∃ e, Api.extendedDirty E C E.G.unit0 ctxSets fs = .userError e) ↔
      ∃ f ∈ fs, (∃ e, Api.parseOne E C true f = .error e) ∨
        (∃ t, Api.parseOne E C true f = .ok t ∧ missing ctxSets t)) ∧
    ((∃ rs, Api.extendedDirty E C E.G.unit0 ctxSets fs = .ok rs) ∨
      (∃ e, Api.extendedDirty E C E.G.unit0 ctxSets fs = .userError e)) := by
  have := batchDirty_outcome hC hE hG hA true ctxSets hctx fs
  rw [parseAll_error_iff, ← extendedDirty_eq_batch] at this
  simpa only [true_and] using this

/-- the same for `model_check_multiple_formulae_dirty` -/
theorem plain_outcome (fs : List (List Char)) :
    ((∃ e, Api.formulaeDirty E C E.G.unit0 fs = .userError e) ↔
      ∃ f ∈ fs, ∃ e, Api.parseOne E C false f = .error e) ∧
    ((∃ rs, Api.formulaeDirty E C E.G.unit0 fs = .ok rs) ∨
      (∃ e, Api.formulaeDirty E C E.G.unit0 fs = .userError e)) := by
  have := batchDirty_outcome hC hE hG hA false [] (by simp) fs
  rw [parseAll_error_iff, ← formulaeDirty_eq_batch] at this
  simpa only [Bool.false_eq_true, false_and, or_false] using this

end Hctl.C14
