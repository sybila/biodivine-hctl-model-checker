/-
  The executable specification of the attractor computation (`Ops.reach`, `Ops.attractorsOf`: breadth-first search
  with a round bound) meets its declarative reading (`mem_reach`, `attrSpec`).  The bound suffices: a round that adds
  nothing stops the search, and a list without repetitions of states `< nS` has at most `nS` entries.  In front: EF
  and AG as reachability (`ef_star_iff`, `ag_star_iff`).
-/
import HctlProofs.Lemmas.LoopSem
namespace Hctl
open Kripke

theorem StarIn.lt_nS {G : Graph} (hG : GraphWF G) {c : Nat} {φ : Nat → Prop} {s u : Nat}
    (h : StarIn (G.stepRel c) φ s u) (hs : s < G.nS) : u < G.nS := by
  induction h with
  | refl _ => exact hs
  | step _ hR _ ih =>
    obtain ⟨j, _, hj⟩ := hR
    exact ih (hG.step_lt _ _ _ _ hj hs)

section reach
variable (G : Graph) (c : Nat)

/-- EF and AG as reachability through real transitions -/
theorem ef_star_iff (φ : Nat → Prop) (s : Nat) :
    (∃ π : Path (G.R c) s, ∃ i, φ (π.π i)) ↔ ∃ u, StarIn (G.stepRel c) (fun _ => True) s u ∧ φ u := by
  rw [ef_path_iff (total_R G c), EUi_R_iff_step, EUi_iff_starIn]

theorem ag_star_iff (φ : Nat → Prop) (s : Nat) :
    (∀ π : Path (G.R c) s, ∀ i, φ (π.π i)) ↔ ∀ u, StarIn (G.stepRel c) (fun _ => True) s u → φ u := by
  rw [ag_path_iff (total_R G c), EUi_R_iff_step, EUi_iff_starIn]
  simp only [not_exists, not_and, Classical.not_not]

end reach

namespace ReachProof
variable (E : Env)

def succs (c s : Nat) : List Nat := (List.range E.G.nV).filterMap (fun j => E.G.step c j s)

theorem mem_succs {c s t : Nat} : t ∈ succs E c s ↔ E.G.stepRel c s t := by
  simp only [succs, List.mem_filterMap, List.mem_range, Graph.stepRel]

/-- the accumulation step inside `Ops.reachFrom` -/
def addNew (acc next : List Nat) : List Nat :=
  next.foldl (fun a t => if a.contains t then a else a ++ [t]) acc

theorem mem_addNew (acc next : List Nat) (x : Nat) : x ∈ addNew acc next ↔ x ∈ acc ∨ x ∈ next := by
  induction next generalizing acc with
  | nil => simp [addNew]
  | cons t ts ih =>
    simp only [addNew, List.foldl_cons] at ih ⊢
    rw [ih, List.mem_cons]
    split
    · rename_i h
      have ht : t ∈ acc := by simpa using h
      exact ⟨fun h => h.elim Or.inl (Or.inr ∘ Or.inr),
        fun h => h.elim Or.inl fun h => h.elim (fun e => Or.inl (e ▸ ht)) Or.inr⟩
    · rw [List.mem_append, List.mem_singleton, or_assoc]

theorem nodup_addNew (acc next : List Nat) (h : acc.Nodup) : (addNew acc next).Nodup := by
  induction next generalizing acc with
  | nil => simpa [addNew]
  | cons t ts ih =>
    simp only [addNew, List.foldl_cons] at ih ⊢
    apply ih
    by_cases hc : acc.contains t = true
    · rw [if_pos hc]; exact h
    · rw [if_neg hc]
      rw [List.nodup_append]
      refine ⟨h, by simp, ?_⟩
      intro a ha b hb
      simp only [List.mem_singleton] at hb
      subst hb
      intro hab
      subst hab
      exact hc (by simpa using ha)

theorem addNew_eq_append (acc next : List Nat) : ∃ l, addNew acc next = acc ++ l := by
  induction next generalizing acc with
  | nil => exact ⟨[], (List.append_nil acc).symm⟩
  | cons t ts ih =>
    simp only [addNew, List.foldl_cons] at ih ⊢
    split
    · exact ih acc
    · obtain ⟨l, hl⟩ := ih (acc ++ [t])
      exact ⟨t :: l, by rw [hl, List.append_assoc, List.singleton_append]⟩

theorem length_addNew (acc next : List Nat) : acc.length ≤ (addNew acc next).length := by
  obtain ⟨l, hl⟩ := addNew_eq_append acc next
  rw [hl, List.length_append]
  exact Nat.le_add_right ..

theorem addNew_stable (acc next : List Nat) (h : (addNew acc next).length = acc.length) : ∀ x ∈ next, x ∈ acc := by
  obtain ⟨l, hl⟩ := addNew_eq_append acc next
  have hnil : l = [] := List.eq_nil_of_length_eq_zero (by rw [hl, List.length_append] at h; omega)
  intro x hx
  have hmem := (mem_addNew acc next x).mpr (Or.inr hx)
  rwa [hl, hnil, List.append_nil] at hmem

theorem reachFrom_eq (c : Nat) (n : Nat) (acc : List Nat) :
    Ops.reachFrom E c (n + 1) acc =
      (if (addNew acc (acc.flatMap (succs E c))).length = acc.length then acc
       else Ops.reachFrom E c n (addNew acc (acc.flatMap (succs E c)))) := by
  rfl

abbrev Star (c : Nat) := StarIn (E.G.stepRel c) (fun _ => True)

theorem star_snoc {c s t u : Nat} (h1 : Star E c s t) (h2 : E.G.stepRel c t u) : Star E c s u := by
  induction h1 with
  | refl _ => exact StarIn.step trivial h2 (StarIn.refl u)
  | step hφ hR _ ih => exact StarIn.step hφ hR (ih h2)

theorem reachFrom_spec (hG : GraphWF E.G) (c s : Nat) :
    ∀ (n : Nat) (acc : List Nat), acc.Nodup → (∀ x ∈ acc, x < E.G.nS) → (∀ x ∈ acc, Star E c s x) →
      E.G.nS + 1 ≤ n + acc.length →
      (∀ x ∈ Ops.reachFrom E c n acc, ∀ t, E.G.stepRel c x t → t ∈ Ops.reachFrom E c n acc) ∧
      (∀ x ∈ Ops.reachFrom E c n acc, Star E c s x) ∧
        (∀ x ∈ acc, x ∈ Ops.reachFrom E c n acc) := by
  intro n
  induction n with
  | zero =>
    intro acc hnd hlt _ hfuel
    exfalso
    -- distinct states `< nS` are at most `nS`
    have : acc.length ≤ (List.range E.G.nS).length :=
      List.Nodup.length_le_of_subset hnd (fun x hx => List.mem_range.mpr (hlt x hx))
    simp at this
    omega
  | succ n ih =>
    intro acc hnd hlt hsound hfuel
    rw [reachFrom_eq]
    have hmem := mem_addNew acc (acc.flatMap (succs E c))
    by_cases hst : (addNew acc (acc.flatMap (succs E c))).length = acc.length
    · rw [if_pos hst]
      refine ⟨?_, hsound, fun x hx => hx⟩
      intro x hx t hxt
      exact addNew_stable _ _ hst t (List.mem_flatMap.mpr ⟨x, hx, (mem_succs E).mpr hxt⟩)
    · rw [if_neg hst]
      have hlen := length_addNew acc (acc.flatMap (succs E c))
      have hnext : ∀ x ∈ acc.flatMap (succs E c), x < E.G.nS ∧ Star E c s x := by
        intro x hx
        obtain ⟨y, hy, hyx⟩ := List.mem_flatMap.mp hx
        obtain ⟨j, hjV, hj⟩ := (mem_succs E).mp hyx
        exact ⟨hG.step_lt c j y x hj (hlt y hy), star_snoc E (hsound y hy) ⟨j, hjV, hj⟩⟩
      obtain ⟨h1, h2, h3⟩ := ih (addNew acc (acc.flatMap (succs E c))) (nodup_addNew _ _ hnd)
        (fun x hx => by
          rcases (hmem x).mp hx with h | h
          · exact hlt x h
          · exact (hnext x h).1)
        (fun x hx => by
          rcases (hmem x).mp hx with h | h
          · exact hsound x h
          · exact (hnext x h).2)
        (by omega)
      exact ⟨h1, h2, fun x hx => h3 x ((hmem x).mpr (Or.inl hx))⟩

theorem mem_reach (hG : GraphWF E.G) (c s t : Nat) (hs : s < E.G.nS) :
    t ∈ Ops.reach E c s ↔ Star E c s t := by
  obtain ⟨hcl, hsound, hinit⟩ := reachFrom_spec E hG c s E.G.nS [s] (by simp) (by simpa using hs)
    (by intro x hx; simp only [List.mem_singleton] at hx; subst hx; exact StarIn.refl _) (by simp)
  constructor
  · exact hsound t
  · intro hst
    have hs0 : s ∈ Ops.reach E c s := hinit s (by simp)
    have key : ∀ a b, Star E c a b → a ∈ Ops.reach E c s → b ∈ Ops.reach E c s := by
      intro a b hab
      induction hab with
      | refl _ => exact id
      | step _ hR _ ih => intro ha; exact ih (hcl _ ha _ hR)
    exact key s t hst hs0

end ReachProof

/-- C12: the model's attractor computation returns the unit points from whose state every reachable state reaches back -/
theorem attrSpec {E : Env} (hE : EnvOK E) (hG : GraphWF E.G) : AttrSpec E := by
  intro U p hp
  have hs : p.s < E.G.nS := hE.s_lt hp
  simp only [Ops.attractorsOf, Bool.and_eq_true, List.all_eq_true, List.contains_iff_mem]
  constructor
  · rintro ⟨hu, h⟩
    refine ⟨hu, fun u hu' => ?_⟩
    have hmem := (ReachProof.mem_reach E hG p.c p.s u hs).mpr hu'
    exact (ReachProof.mem_reach E hG p.c u p.s (StarIn.lt_nS hG hu' hs)).mp (h u hmem)
  · rintro ⟨hu, h⟩
    refine ⟨hu, fun u hmem => ?_⟩
    have hst := (ReachProof.mem_reach E hG p.c p.s u hs).mp hmem
    exact (ReachProof.mem_reach E hG p.c u p.s (StarIn.lt_nS hG hst hs)).mpr (h u hst)

end Hctl
