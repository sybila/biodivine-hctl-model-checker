/-
  C04 for the string entry points: the set returned for a formula depends on that formula and the context sets of its
  labels only, not on its position, the other formulae of the list, or repetitions.
-/
import HctlProofs.Lemmas.EntryPoints
namespace Hctl.C04

section main2
variable {C : CharClass} (hC : Lex.CharsOK C) {E : Env} (hE : EnvOK E) (hG : GraphWF E.G) (hA : C12.GraphAsync E.G)
include hC hE hG hA

/-- the results are exact in the supplied context: the collected context agrees with it on every label of every tree -/
theorem batchDirty_sem (ext : Bool) (ctxSets : List (Name × CSet)) (hctx : ∀ e ∈ ctxSets, SetSC e.2)
    (fs : List (List Char)) (trees : List Tree) (ps ds : List (Name × CSet)) (rs : List CSet)
    (hp : Api.parseAll E C ext ctxSets fs = .ok (trees, ps, ds))
    (hr : batchDirty E C ext E.G.unit0 ctxSets fs = .ok rs) :
    rs.length = trees.length ∧ ∀ i (hi : i < trees.length) (hi' : i < rs.length),
      Sem E rs[i] E.G.unit0 (sat E.G (ctxOf ctxSets ctxSets) trees[i]) := by
  rcases batchDirty_correct hC hE hG hA ext ctxSets hctx fs with ⟨e, h, _⟩ | ⟨_, _, _, _, h, hr', hlen, hall⟩
  · rw [hp] at h; cases h
  rw [hp] at h; cases h
  rw [hr] at hr'; cases hr'
  obtain ⟨i1, i2, i3⟩ := parseAll_spec E C hC.charOK ext ctxSets fs trees ps ds hp
  refine ⟨hlen, fun i hi hi' p hpp => ?_⟩
  obtain ⟨_, hw, hd⟩ := i1 trees[i] (List.getElem_mem hi)
  rw [hall i hi hi' p hpp]
  refine and_congr_right fun _ => sat_ctx_agree E.G _ _ trees[i] (fun w hww => ?_) (fun d hdd => ?_) p
  · rw [ctxOf_wild, ctxOf_wild, C04.lookup_dedupNames, lookup_eq_of_vals ctxSets w ps (fun e he => (i2 e he).1) (hw w hww)]
  · rw [ctxOf_dom, ctxOf_dom, C04.lookup_dedupNames, lookup_eq_of_vals ctxSets d ds i3 (hd d hdd)]

theorem batch_position_independent (ext : Bool) (ctxSets : List (Name × CSet)) (hctx : ∀ e ∈ ctxSets, SetSC e.2)
    (fs gs : List (List Char)) (rs rs' : List CSet)
    (h1 : batchDirty E C ext E.G.unit0 ctxSets fs = .ok rs) (h2 : batchDirty E C ext E.G.unit0 ctxSets gs = .ok rs')
    (i j : Nat) (hi : i < fs.length) (hj : j < gs.length) (heq : fs[i] = gs[j]) :
    ∃ (hi' : i < rs.length) (hj' : j < rs'.length), EqOn E.pts rs[i] rs'[j] := by
  obtain ⟨t1, p1, d1, hp1⟩ := batchDirty_ok_parse h1
  obtain ⟨t2, p2, d2, hp2⟩ := batchDirty_ok_parse h2
  obtain ⟨hl1, ha1⟩ := batchDirty_sem hC hE hG hA ext ctxSets hctx fs t1 p1 d1 rs hp1 h1
  obtain ⟨hl2, ha2⟩ := batchDirty_sem hC hE hG hA ext ctxSets hctx gs t2 p2 d2 rs' hp2 h2
  obtain ⟨g1, g2⟩ := parseAll_get E C ext ctxSets fs t1 p1 d1 hp1
  obtain ⟨g3, g4⟩ := parseAll_get E C ext ctxSets gs t2 p2 d2 hp2
  have ht : t1[i]'(by omega) = t2[j]'(by omega) := by
    have a := g2 i hi (by omega)
    rw [heq, g4 j hj (by omega)] at a
    exact (Except.ok.inj a).symm
  refine ⟨by omega, by omega, ?_⟩
  have a := ha1 i (by omega) (by omega)
  rw [ht] at a
  exact a.eqOn (ha2 j (by omega) (by omega))

/-- `model_check_multiple_formulae_dirty`: the set at position `i` of one list equals, on the graph, the set at position
`j` of any list with the same string there (reordering, repetition, a formula evaluated alone). -/
theorem formulae_position_independent (fs gs : List (List Char)) (rs rs' : List CSet)
    (h1 : Api.formulaeDirty E C E.G.unit0 fs = .ok rs) (h2 : Api.formulaeDirty E C E.G.unit0 gs = .ok rs')
    (i j : Nat) (hi : i < fs.length) (hj : j < gs.length) (heq : fs[i] = gs[j]) :
    ∃ (hi' : i < rs.length) (hj' : j < rs'.length), EqOn E.pts rs[i] rs'[j] := by
  rw [formulaeDirty_eq_batch] at h1 h2
  exact batch_position_independent hC hE hG hA false [] (by simp) fs gs rs rs' h1 h2 i j hi hj heq

/-- the same for `model_check_multiple_extended_formulae_dirty` with one context of variable-independent sets -/
theorem extended_position_independent (ctxSets : List (Name × CSet)) (hctx : ∀ e ∈ ctxSets, SetSC e.2)
    (fs gs : List (List Char)) (rs rs' : List CSet)
    (h1 : Api.extendedDirty E C E.G.unit0 ctxSets fs = .ok rs) (h2 : Api.extendedDirty E C E.G.unit0 ctxSets gs = .ok rs')
    (i j : Nat) (hi : i < fs.length) (hj : j < gs.length) (heq : fs[i] = gs[j]) :
    ∃ (hi' : i < rs.length) (hj' : j < rs'.length), EqOn E.pts rs[i] rs'[j] :=
  batch_position_independent hC hE hG hA true ctxSets hctx fs gs rs rs' h1 h2 i j hi hj heq

end main2
end Hctl.C04
