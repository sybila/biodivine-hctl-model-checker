/-
  Parser and grammar agree.  The nine parser functions are read as one function `parseAt` of the level; what a level
  does is said once, by the equations `parseAt_up/bin/hyb/un/term` (indexed by what the split finds, `splitPred_cases`),
  and soundness, fuel sufficiency and completeness are inductions that use only these.
-/
import HctlProofs.Lemmas.Leaves
namespace Hctl

def parseAt : Lvl → Nat → List Tok → Except PErr Tree
  | .hyb => parse1 | .iff => parse2 | .imp => parse3 | .or => parse4 | .xor => parse5
  | .and => parse6 | .bt => parse7 | .un => parse8 | .term => parse9

theorem parseAt_zero (k : Lvl) (ts : List Tok) : parseAt k 0 ts = .error .fuel := by
  cases k <;> rfl

theorem parseAt_up {k : Lvl} {n : Nat} {ts : List Tok} (hk : k ≠ .term)
    (hs : splitFirst k.splitPred ts = none) : parseAt k (n + 1) ts = parseAt k.next n ts := by
  cases k
  case term => exact absurd rfl hk
  all_goals
    simp only [Lvl.splitPred] at hs
    simp only [parseAt, Lvl.next, parse1, parse2, parse3, parse4, parse5, parse6, parse7, parse8, hs]

theorem parseAt_bin {k : Lvl} {o : BinOp} {n : Nat} {ts pre post : List Tok}
    (hs : splitFirst k.splitPred ts = some (pre, .bin o, post)) :
    parseAt k (n + 1) ts = bin? o (parseAt k.next n pre) (parseAt k n post) := by
  have ho := (splitFirst_some hs).2.1
  cases k
  case bt => simp only [Lvl.splitPred] at hs; simp only [parseAt, Lvl.next, parse7, hs]
  case hyb | un | term => cases ho
  all_goals
    simp only [Lvl.splitPred] at hs ho
    cases isBin_eq ho
    simp only [parseAt, Lvl.next, parse2, parse3, parse4, parse5, parse6, hs]

theorem lastIsHybrid_false {pre : List Tok} (h : ∀ y ∈ pre, y.isHybrid = false) : lastIsHybrid pre = false := by
  unfold lastIsHybrid
  split
  next t ht => exact h t (List.mem_of_getLast? ht)
  next => rfl

/-- The parser asks that the token before the first hybrid operator be a hybrid operator too; there is none, so
nothing may precede it. -/
theorem parseAt_hyb {n : Nat} {ts pre post : List Tok} {o v d}
    (hs : splitFirst Tok.isHybrid ts = some (pre, .hyb o v d, post)) :
    parseAt .hyb (n + 1) ts = match pre with
      | [] => (parseAt .hyb n post).map (.hyb o v d)
      | _ :: _ => .error .bad := by
  simp only [parseAt, parse1, hs, lastIsHybrid_false (splitFirst_some hs).2.2]
  cases pre <;> cases parse1 n post <;> rfl

theorem parseAt_un {n : Nat} {ts pre post : List Tok} {o}
    (hs : splitFirst Tok.isUnary ts = some (pre, .un o, post)) :
    parseAt .un (n + 1) ts = match pre with
      | [] => (parseAt .un n post).map (.un o)
      | _ :: _ => .error .bad := by
  simp only [parseAt, parse8, hs]
  cases pre <;> cases parse8 n post <;> rfl

theorem parseAt_term (n : Nat) (ts : List Tok) :
    parseAt .term (n + 1) ts = match classify9 ts with
      | .done r => r
      | .inner i => parseAt .hyb n i := rfl

theorem classify9_cases (ts : List Tok) :
    (∃ t, classify9 ts = .done (.ok t) ∧ D .term ts t) ∨ (∃ i, ts = [.group i] ∧ classify9 ts = .inner i) ∨
      classify9 ts = .done (.error .bad) := by
  unfold classify9
  split
  · exact .inl ⟨_, rfl, D.prop⟩
  · exact .inl ⟨_, rfl, D.var⟩
  · exact .inl ⟨_, rfl, D.wild⟩
  · exact .inr (.inl ⟨_, rfl, rfl⟩)
  · exact .inr (.inr rfl)

theorem parseAt_sound : ∀ n k ts t, parseAt k n ts = .ok t → D k ts t := by
  intro n
  induction n with
  | zero => intro k ts t h; rw [parseAt_zero] at h; cases h
  | succ n ih =>
    intro k ts t h
    by_cases hk : k = .term
    · subst hk
      rw [parseAt_term] at h
      rcases classify9_cases ts with ⟨t', hc, hd⟩ | ⟨i, rfl, hc⟩ | hc <;> rw [hc] at h
      · cases h; exact hd
      · exact D.group (ih _ _ _ h)
      · cases h
    cases hs : splitFirst k.splitPred ts with
    | none =>
      rw [parseAt_up hk hs] at h
      exact D.up hk (ih _ _ _ h)
    | some r =>
      obtain ⟨pre, x, post⟩ := r
      obtain ⟨rfl, hx, -⟩ := splitFirst_some hs
      rcases splitPred_cases hx with ⟨rfl, o, v, d, rfl⟩ | ⟨o, hop, rfl⟩ | ⟨rfl, o, rfl⟩
      · rw [parseAt_hyb hs] at h
        cases pre with
        | cons => cases h
        | nil => obtain ⟨c, hc, rfl⟩ := Except.map_eq_ok h; exact D.hyb (ih _ _ _ hc)
      · rw [parseAt_bin hs] at h
        obtain ⟨a, b, ha, hb, rfl⟩ := bin?_ok h
        exact D.bin hop (ih _ _ _ ha) (ih _ _ _ hb)
      · rw [parseAt_un hs] at h
        cases pre with
        | cons => cases h
        | nil => obtain ⟨c, hc, rfl⟩ := Except.map_eq_ok h; exact D.un (ih _ _ _ hc)

/-- C05, soundness, for the nine parser functions by name -/
theorem parse_sound : ∀ n,
    (∀ ts t, parse1 n ts = .ok t → D .hyb ts t) ∧
    (∀ ts t, parse2 n ts = .ok t → D .iff ts t) ∧
    (∀ ts t, parse3 n ts = .ok t → D .imp ts t) ∧
    (∀ ts t, parse4 n ts = .ok t → D .or ts t) ∧
    (∀ ts t, parse5 n ts = .ok t → D .xor ts t) ∧
    (∀ ts t, parse6 n ts = .ok t → D .and ts t) ∧
    (∀ ts t, parse7 n ts = .ok t → D .bt ts t) ∧
    (∀ ts t, parse8 n ts = .ok t → D .un ts t) ∧
    (∀ ts t, parse9 n ts = .ok t → D .term ts t) :=
  fun n => ⟨parseAt_sound n .hyb, parseAt_sound n .iff, parseAt_sound n .imp, parseAt_sound n .or,
    parseAt_sound n .xor, parseAt_sound n .and, parseAt_sound n .bt, parseAt_sound n .un, parseAt_sound n .term⟩

/-- More fuel than this is enough at level `k`: `9 - k.rank` calls take the list down to the last level, and a call on
a lighter list may restart up to eight levels higher (a group restarts at the first), so each unit of weight pays for
nine calls; ten is the constant of `parseFuel`. -/
def need (k : Lvl) (ts : List Tok) : Nat := (9 - k.rank) + 10 * Tok.weightList ts

theorem need_next {k : Lvl} (hk : k ≠ .term) {ts : List Tok} {n : Nat} (hn : need k ts < n + 1) :
    need k.next ts < n := by
  have h1 := Lvl.rank_next_gt hk
  have h2 : k.next.rank ≤ 9 := by cases k <;> decide
  unfold need at hn ⊢
  omega

theorem need_lighter {k : Lvl} {a b : List Tok} {n : Nat} (hn : need k b < n + 1)
    (h : Tok.weightList a < Tok.weightList b) (k' : Lvl) : need k' a < n := by
  unfold need at hn ⊢
  omega

theorem need_lt_parseFuel (k : Lvl) (ts : List Tok) : need k ts < parseFuel ts := by
  unfold need parseFuel
  omega

theorem parseAt_no_fuel : ∀ n k ts, need k ts < n → parseAt k n ts ≠ .error .fuel := by
  intro n
  induction n with
  | zero => intro k ts hn; cases hn
  | succ n ih =>
    intro k ts hn h
    by_cases hk : k = .term
    · subst hk
      rw [parseAt_term] at h
      rcases classify9_cases ts with ⟨t', hc, -⟩ | ⟨i, rfl, hc⟩ | hc <;> rw [hc] at h
      · cases h
      · exact ih _ _ (need_lighter hn (weightList_group i) _) h
      · cases h
    cases hs : splitFirst k.splitPred ts with
    | none =>
      rw [parseAt_up hk hs] at h
      exact ih _ _ (need_next hk hn) h
    | some r =>
      obtain ⟨pre, x, post⟩ := r
      obtain ⟨rfl, hx, -⟩ := splitFirst_some hs
      obtain ⟨wl, wr⟩ := weightList_split pre x post
      rcases splitPred_cases hx with ⟨rfl, o, v, d, rfl⟩ | ⟨o, -, rfl⟩ | ⟨rfl, o, rfl⟩
      · rw [parseAt_hyb hs] at h
        cases pre with
        | cons => cases h
        | nil => exact ih _ _ (need_lighter hn wr _) (Except.map_eq_error h)
      · rw [parseAt_bin hs] at h
        rcases bin?_fuel h with h | h
        · exact ih _ _ (need_lighter hn wl _) h
        · exact ih _ _ (need_lighter hn wr _) h
      · rw [parseAt_un hs] at h
        cases pre with
        | cons => cases h
        | nil => exact ih _ _ (need_lighter hn wr _) (Except.map_eq_error h)

theorem parseAt_complete {k ts t} (h : D k ts t) : ∀ n, need k ts < n → parseAt k n ts = .ok t := by
  induction h with
  | @hyb o v d r c _ ih =>
    rintro (_ | n) hn
    · cases hn
    rw [parseAt_hyb (pre := []) rfl, ih n (need_lighter hn (weightList_split [] _ r).2 _)]
    rfl
  | @bin k o l r a b hop hl _ ihl ihr =>
    rintro (_ | n) hn
    · cases hn
    obtain ⟨wl, wr⟩ := weightList_split l (.bin o) r
    rw [parseAt_bin (split_bin hop hl), ihl n (need_lighter hn wl _), ihr n (need_lighter hn wr _)]
    rfl
  | @un o r c _ ih =>
    rintro (_ | n) hn
    · cases hn
    rw [parseAt_un (pre := []) rfl, ih n (need_lighter hn (weightList_split [] _ r).2 _)]
    rfl
  | @up k ts t hk hd ih =>
    rintro (_ | n) hn
    · cases hn
    rw [parseAt_up hk (split_up hk hd)]
    exact ih n (need_next hk hn)
  | prop | var | wild =>
    rintro (_ | n) hn
    · cases hn
    rfl
  | @group ts t _ ih =>
    rintro (_ | n) hn
    · cases hn
    exact ih n (need_lighter hn (weightList_group ts) _)

theorem parseAt_iff_derives {k : Lvl} {n : Nat} {ts : List Tok} (hn : need k ts < n) (t : Tree) :
    parseAt k n ts = .ok t ↔ D k ts t :=
  ⟨parseAt_sound n k ts t, fun h => parseAt_complete h n hn⟩

theorem parseAt_bad_iff {k : Lvl} {n : Nat} {ts : List Tok} (hn : need k ts < n) :
    parseAt k n ts = .error .bad ↔ ¬ ∃ t, D k ts t := by
  constructor
  · rintro h ⟨t, ht⟩
    rw [(parseAt_iff_derives hn t).mpr ht] at h
    cases h
  · intro h
    cases hp : parseAt k n ts with
    | ok t => exact absurd ⟨t, (parseAt_iff_derives hn t).mp hp⟩ h
    | error e =>
      cases e with
      | bad => rfl
      | fuel => exact absurd hp (parseAt_no_fuel n k ts hn)

theorem D.functional {k ts t t'} (h : D k ts t) (h' : D k ts t') : t = t' :=
  Except.ok.inj ((parseAt_complete h _ (Nat.lt_succ_self _)).symm.trans (parseAt_complete h' _ (Nat.lt_succ_self _)))

-- `cases h` cannot invert (`l ++ .bin o :: r = [_]`), so run the parser: `parseAt_term` unfolds
-- `parseAt .term (n + 1) [.group i]` to `parseAt .hyb n i`
theorem D.group_inv {i : List Tok} {u : Tree} (h : D .term [.group i] u) : D .hyb i u :=
  parseAt_sound _ .hyb i u (parseAt_complete h _ (Nat.lt_succ_self _))

theorem D.frontier_eq {k ts t} (h : D k ts t) : Tok.flatList ts = t.frontier := by
  induction h with
  | hyb _ ih => simp [Tok.flatList, Tok.flat, Tree.frontier, ih]
  | bin _ _ _ ihl ihr => simp [flatList_append, Tok.flatList, Tok.flat, Tree.frontier, ihl, ihr]
  | un _ ih => simp [Tok.flatList, Tok.flat, Tree.frontier, ih]
  | up _ _ ih => exact ih
  | @prop n => rw [constOrProp_atom]; simp [Tok.flatList, Tok.flat, Tree.frontier]
  | var => simp [Tok.flatList, Tok.flat, Tree.frontier, atomOfTok]
  | wild => simp [Tok.flatList, Tok.flat, Tree.frontier, atomOfTok]
  | group _ ih => simp [Tok.flatList, Tok.flat, ih]

end Hctl
