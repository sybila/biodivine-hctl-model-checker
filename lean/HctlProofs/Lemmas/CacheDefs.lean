/-
  DEFINITIONS for the theorem about the cached evaluator `Eval.evalNode` (duplicate counters, cache with renaming,
  foreign-restriction flag, free_var_domains, pattern shortcuts, empty-domain shortcut): from EVERY state of the cache that
  satisfies the invariant `CacheOK`, hence after every evaluation history, it returns a set that is semantically exact
  and re-establishes the invariant (`evalNode_sound`, Lemmas/EvalNodeSound.lean).

  Two facts about canonical keys are premises of that theorem (`KeySem`, `KeyWild`): that equal keys imply that the
  cached set, renamed back, denotes the other sub-formula.  They are the semantic content of C09 and are proved from the
  canoniser model (`keySem_holds`, `keyWild_holds`, Lemmas/KeyProof.lean), so the end-to-end theorems carry neither.
-/
import HctlProofs.Spec.Scoping
import HctlProofs.Spec.Lexical
import HctlProofs.Spec.Denotation
namespace Hctl

/-- every wild-card proposition of the formula has a context set -/
def WildsIn (K : SemCtx) : Tree → Prop
  | .atom (.wild w) => ∃ a, K.wild w = some a
  | .atom _ => True
  | .un _ c => WildsIn K c
  | .bin _ l r => WildsIn K l ∧ WildsIn K r
  | .hyb _ _ _ c => WildsIn K c

/-- the unit set is the top-level unit restricted by the domains of the open quantifiers -/
def UnitDesc (E : Env) (K : SemCtx) (U0 U : CSet) (ds : List (Option Name)) : Prop :=
  ∀ p ∈ E.pts, (U p = true ↔ (U0 p = true ∧
    ∀ i l a, ds[i]? = some (some l) → K.dom l = some a → a (p.setS (p.getV i)) = true))

/-- a legitimate call of `eval_node`: preprocessed sub-formula `t` at quantifier depth `ds.length`, in the
unit set `U` described by the open domains `ds` -/
structure GoodQ (C : CharClass) (E : Env) (K : SemCtx) (U0 : CSet) (t : Tree) (U : CSet) (ds : List (Option Name)) : Prop where
  wscoped : WellScoped E.G.k ds.length t
  named : DepthNamed ds.length t
  dk : ds.length ≤ E.G.k
  domsIn : DomsIn K t
  domsDs : ∀ (i : Nat) l, ds[i]? = some (some l) → ∃ a, K.dom l = some a
  wildsIn : WildsIn K t
  labelled : C07.PropsOK (fun n => (E.G.label n).isSome) t
  unit : UnitOK E U0 (Ops.steadyOf E U0) U ds.length
  desc : UnitDesc E K U0 U ds
  valid : Lex.TreeOK C t ∧ PropNamesOK t

/-- no quantifier with a restricted domain is open whose variable does not occur in the sub-formula -/
def NoForeign (ren : List (Name × Name)) (ds : List (Option Name)) : Prop :=
  ∀ i l, ds[i]? = some (some l) → (ren.lookup (xs (i + 1))).isSome = true

/-- key of a wild-card proposition -/
def wkey (w : Name) : Key := ('%' :: w ++ ['%'], [])

/-- HYPOTHESIS (semantic key soundness, the content of C09): if two legitimate sub-formula occurrences have the
same key (canonical text + canonical domains), at most one variable, and the first was evaluated without
foreign restriction, then renaming the first one's set back along the renamings and intersecting with the
second one's unit yields exactly the second one's satisfaction set — and the renaming does not fault. -/
def KeySem (C : CharClass) (E : Env) (K : SemCtx) (U0 : CSet) : Prop :=
  ∀ t1 U1 ds1 t2 U2 ds2 key ren1 ren2 R,
    GoodQ C E K U0 t1 U1 ds1 → GoodQ C E K U0 t2 U2 ds2 →
    keyOf t1 (fvdOf ds1) = (key, ren1) → keyOf t2 (fvdOf ds2) = (key, ren2) →
    ren1.length ≤ 1 → ren2.length ≤ 1 → NoForeign ren1 ds1 → t1.isWild = false →
    Sem E R U1 (sat E.G K t1) →
    ∃ r', Eval.renameBack E U2 ren2 (sortRen ren1) R = .ok r' ∧ Sem E (r'.inter U2) U2 (sat E.G K t2)

/-- HYPOTHESIS (keys of wild-card propositions): the key of `%w%` is `("%w%", ∅)`, and only `%w%` has it -/
structure KeyWild (C : CharClass) (E : Env) (K : SemCtx) (U0 : CSet) : Prop where
  wild_key : ∀ w ds, Lex.ValidId C w → keyOf (.atom (.wild w)) (fvdOf ds) = (wkey w, [])
  key_wild : ∀ t U ds w ren, GoodQ C E K U0 t U ds → keyOf t (fvdOf ds) = (wkey w, ren) → t = .atom (.wild w)

/-- some depth-named, well-scoped, valid tree with at most one variable has this key -/
def KeyWitness (C : CharClass) (E : Env) (key : Key) : Prop :=
  ∃ t0 d0 doms0 ren0, keyOf t0 doms0 = (key, ren0) ∧ ren0.length ≤ 1 ∧ DepthNamed d0 t0 ∧ WellScoped E.G.k d0 t0 ∧
    Lex.TreeOK C t0 ∧ PropNamesOK t0

/-- the invariant of the evaluation context -/
structure CacheOK (C : CharClass) (E : Env) (K : SemCtx) (U0 : CSet) (ctx : ECtx) : Prop where
  entries : ∀ key R rren, cacheGet key ctx.cache = some (R, rren) →
    (∃ w a, key = wkey w ∧ K.wild w = some a ∧ R = a ∧ rren = []) ∨
    (∃ t1 U1 ds1, GoodQ C E K U0 t1 U1 ds1 ∧ keyOf t1 (fvdOf ds1) = (key, rren) ∧ rren.length ≤ 1 ∧
      NoForeign rren ds1 ∧ t1.isWild = false ∧ Sem E R U1 (sat E.G K t1))
  wilds : ∀ w a, K.wild w = some a →
    cacheGet (wkey w) ctx.cache = some (a, []) ∧ (dupGet (wkey w) ctx.dups).isSome = true
  domRaw : ∀ l a, K.dom l = some a → ctx.domRaw.lookup l = some a
  /-- every key of the duplicate map is the key of some depth-named, well-scoped, valid tree with at most one
  variable (what `mark_duplicates` guarantees; `dups_le_one` turns it into a property of the key) -/
  dupsOK : ∀ key n, dupGet key ctx.dups = some n → KeyWitness C E key

end Hctl
