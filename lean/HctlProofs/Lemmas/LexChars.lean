/-
  The scanning functions `skipWs`, `collectName`, `collectVarDom`: what they read of a text of a given form and,
  conversely, the form of the text they accept (`collectVarDom` accepts exactly the segments of `Seg`) — first what holds
  for any character classes, then what `CharsOK` adds, up to: `lexTok` reads a valid name as that name.
-/
import HctlProofs.Lemmas.LexTok
namespace Hctl

/-- as character lists: evaluating the string literals of `Print.lean` is slow -/
theorem UnOp.str_eq (o : UnOp) : o.str = match o with
    | .not => ['~'] | .ex => ['E','X'] | .ax => ['A','X'] | .ef => ['E','F'] | .af => ['A','F'] | .eg => ['E','G']
    | .ag => ['A','G'] := by
  cases o <;> exact String.toList_ofList

theorem BinOp.str_eq (o : BinOp) : o.str = match o with
    | .and => ['&'] | .or => ['|'] | .xor => ['^'] | .imp => ['=','>'] | .iff => ['<','=','>']
    | .eu => ['E','U'] | .au => ['A','U'] | .ew => ['E','W'] | .aw => ['A','W'] := by
  cases o <;> exact String.toList_ofList

theorem HybOp.str_eq (o : HybOp) : o.str = match o with
    | .bind => ['!'] | .jump => ['@'] | .ex => ['3'] | .all => ['V'] := by
  cases o <;> exact String.toList_ofList

namespace Lex

variable {K : CharClass}

theorem isName_under : isName K '_' = true := by simp [isName]

theorem collectName_app (n rest : List Char) (hn : ∀ c ∈ n, isName K c = true) (hs : Sep K rest) :
    collectName K (n ++ rest) = (n, rest) := by
  induction n with
  | nil =>
    cases rest with
    | nil => rfl
    | cons c cs =>
      have := hs c rfl
      simp [collectName, this]
  | cons c n ih =>
    have hc := hn c (by simp)
    simp only [List.cons_append, collectName, hc, if_true]
    rw [ih (fun x hx => hn x (by simp [hx]))]

theorem sep_nil : Sep K [] := by intro x hx; simp at hx

theorem nextIsName_false_iff (cs : List Char) : nextIsName K cs = false ↔ Sep K cs := by
  cases cs with
  | nil => simp [nextIsName, Sep]
  | cons c cs => simp [nextIsName, Sep]

theorem tempUn_some {a b : Char} {t : Tok} (h : tempUn a b = some t) :
    (a = 'E' ∨ a = 'A') ∧ isTempOp (some b) = true := by
  unfold tempUn at h
  split at h <;> first | (cases h; done) | simp [isTempOp]

theorem tempUn_some_of {c c2 : Char} (h1 : (decide (c = 'E') || decide (c = 'A')) = true) (h2 : isTempOp (some c2) = true) :
    ∃ t, tempUn c c2 = some t := by
  simp only [Bool.or_eq_true, decide_eq_true_eq] at h1
  simp only [isTempOp, Bool.or_eq_true, beq_iff_eq] at h2
  rcases h1 with rfl | rfl <;> rcases h2 with (((rfl | rfl) | rfl) | rfl) | rfl <;> exact ⟨_, rfl⟩

/-- `c` stands alone as the operator `d` (`3`, `V`) -/
theorem lone_iff (c d : Char) (cs : List Char) :
    (decide (c = d) && !nextIsName K cs) = true ↔ c :: (collectName K cs).fst = [d] := by
  cases cs with
  | nil => simp [nextIsName, collectName]
  | cons x xs => by_cases hx : isName K x = true <;> simp [nextIsName, collectName, hx]

theorem skipWs_nonws {c : Char} (cs : List Char) (h : K.isWs c = false) : skipWs K (c :: cs) = c :: cs := by
  simp [skipWs, h]

theorem skipWs_app (w : List Char) {c : Char} (cs : List Char) (hw : AllWs K w) (hc : K.isWs c = false) :
    skipWs K (w ++ c :: cs) = c :: cs := by
  induction w with
  | nil => simp [skipWs, hc]
  | cons x w ih =>
    simp only [List.cons_append, skipWs, hw x (by simp), if_true]
    exact ih (fun y hy => hw y (by simp [hy]))

theorem skipWs_split (cs : List Char) : ∃ w, AllWs K w ∧ cs = w ++ skipWs K cs := by
  induction cs with
  | nil => exact ⟨[], by intro c hc; simp at hc, rfl⟩
  | cons c cs ih =>
    by_cases hc : K.isWs c = true
    · obtain ⟨w, hw, he⟩ := ih
      refine ⟨c :: w, List.forall_mem_cons.mpr ⟨hc, hw⟩, ?_⟩
      simp only [skipWs, hc, if_true, List.cons_append]
      rw [← he]
    · exact ⟨[], by intro x hx; simp at hx, by simp [skipWs, hc]⟩

theorem collectName_split (K : CharClass) (cs : List Char) :
    cs = (collectName K cs).1 ++ (collectName K cs).2 ∧ (∀ c ∈ (collectName K cs).1, isName K c = true) ∧
      Sep K (collectName K cs).2 := by
  induction cs with
  | nil => exact ⟨rfl, by simp [collectName], sep_nil⟩
  | cons c cs ih =>
    by_cases hc : isName K c = true
    · simp only [collectName, hc, if_true]
      exact ⟨by simp; exact ih.1, List.forall_mem_cons.mpr ⟨hc, ih.2.1⟩, ih.2.2⟩
    · simp only [collectName, hc, if_false, Bool.false_eq_true]
      refine ⟨rfl, by simp, ?_⟩
      intro x hx
      simp only [List.head?_cons, Option.some.injEq] at hx
      subst hx
      simpa using hc

theorem ValidId.isEmpty {v : Name} (hv : ValidId K v) : v.isEmpty = false := by
  cases v with
  | nil => exact absurd rfl hv.1
  | cons _ _ => rfl

theorem collectName_fst_ne_nil (cs : List Char) (h : nextIsName K cs = true) : (collectName K cs).fst ≠ [] := by
  cases cs with
  | nil => cases h
  | cons c cs =>
    have hc : isName K c = true := h
    simp [collectName, hc]

theorem domPart_sound {cs4 : List Char} {dom : Option Name} {cs10 : List Char} : domPart K cs4 = some (dom, cs10) →
    (dom = none ∧ cs10 = cs4) ∨
    (∃ w3 dn w4, dom = some dn ∧ cs4 = 'i' :: 'n' :: (w3 ++ '%' :: (dn ++ '%' :: (w4 ++ cs10))) ∧
      AllWs K w3 ∧ AllWs K w4 ∧ ValidId K dn) := by
  fun_cases domPart K cs4 <;> intro h
  case case5 cs5 cs6 h1 cs7 h2 dn sn hcn hne cs9 h3 =>
    cases h
    have s7 := collectName_split K cs7
    rw [hcn] at s7
    obtain ⟨w3, hw3, e3⟩ := skipWs_split (K := K) cs6
    obtain ⟨w4, hw4, e4⟩ := skipWs_split (K := K) cs9
    refine Or.inr ⟨w3, dn, w4, rfl, ?_, hw3, hw4, ⟨by simpa using hne, s7.2.1⟩⟩
    rw [expect_some h1, e3, expect_some h2, s7.1, expect_some h3, ← e4]
  case case6 => cases h; exact Or.inl ⟨rfl, rfl⟩
  all_goals cases h

theorem collectVarDom_sound {pd : Bool} {cs : List Char} {v : Name} {d : Option Name} {rest : List Char} :
    collectVarDom K pd cs = some (v, d, rest) → ∃ seg, cs = seg ++ rest ∧ Seg K pd seg v d := by
  fun_cases collectVarDom K pd cs <;> intro h
  case case6 cs1 h1 v' cs2 hcn hne cs3 h3 cs4 dom cs10 hdp cs11 h4 =>
    cases h
    have s1 := collectName_split K cs1
    rw [hcn] at s1
    obtain ⟨w1, hw1, e1⟩ := skipWs_split (K := K) cs
    obtain ⟨w2, hw2, e2⟩ := skipWs_split (K := K) cs3
    have hv : ValidId K v := ⟨by simpa using hne, s1.2.1⟩
    have hcs : cs = w1 ++ '{' :: (v ++ '}' :: (w2 ++ cs4)) := by
      rw [e1, expect_some h1]
      conv => lhs; rw [s1.1, expect_some h3, e2]
    have hplain : d = none → cs10 = cs4 → ∃ seg, cs = seg ++ rest ∧ Seg K pd seg v d := by
      intro hd hc
      subst hd
      refine ⟨_, ?_, Seg.plain pd w1 w2 _ hw1 hw2 hv⟩
      rw [hcs, ← hc, expect_some h4]
      simp
    cases pd with
    | false =>
      simp only [Bool.false_eq_true, if_false, Option.some.injEq, Prod.mk.injEq] at hdp
      exact hplain hdp.1.symm hdp.2.symm
    | true =>
      rcases domPart_sound hdp with ⟨hd, hc⟩ | ⟨w3, dn, w4, hd, hc4, hw3, hw4, hdn⟩
      · exact hplain hd hc
      · subst hd
        refine ⟨_, ?_, Seg.dom w1 w2 w3 w4 _ dn hw1 hw2 hw3 hw4 hv hdn⟩
        rw [hcs, hc4, expect_some h4]
        simp
  all_goals cases h

theorem sep_append {cs rest : List Char} (h1 : Sep K cs) (h2 : Sep K rest) : Sep K (cs ++ rest) := by
  cases cs with
  | nil => simpa using h2
  | cons c cs => intro x hx; exact h1 x (by simpa using hx)

theorem sep_left {a b : List Char} (h : Sep K (a ++ b)) : Sep K a := by
  cases a with
  | nil => exact sep_nil
  | cons c a => intro x hx; exact h x (by simpa using hx)

variable (hK : CharsOK K) (ext : Bool)
include hK

theorem not_ws (c : Char) (hc : c ∈ specials := by decide) (hne : c ≠ ' ' := by decide) : K.isWs c = false :=
  hK.special_not_ws c hc hne

theorem CharsOK.charOK : CharOK K :=
  ⟨(Bool.or_eq_false_iff.mp (hK.special_not_name '%' (by decide))).1⟩

theorem name_not_ws {c : Char} (hc : isName K c = true) : K.isWs c = false := by
  cases h : K.isWs c with
  | false => rfl
  | true => rw [hK.ws_not_name c h] at hc; cases hc

abbrev letters : List Char :=
  ['T','r','u','e','F','a','l','s','X','G','U','W','E','A','i','n','V','3','x','v','t','f','o','b','d','j','m','p']

theorem letter_name {c : Char} (h : c ∈ letters) :
    isName K c = true := by
  simp [isName, hK.letters c h]

theorem letter_not_ws {c : Char} (h : c ∈ letters := by decide) : K.isWs c = false :=
  name_not_ws hK (letter_name hK h)

theorem sep_special {c : Char} (cs : List Char) (hc : c ∈ specials := by decide) : Sep K (c :: cs) := by
  intro x hx
  simp only [List.head?_cons, Option.some.injEq] at hx
  subst hx
  exact hK.special_not_name _ hc

theorem name_ne_special {c : Char} (hc : isName K c = true) : ∀ s ∈ specials, c ≠ s := by
  intro s hs h
  subst h
  rw [hK.special_not_name _ hs] at hc
  cases hc

theorem lexTok_name (nm : Name) (hv : ValidName K nm) (rest : List Char) (hs : Sep K rest) :
    lexTok K ext (nm ++ rest) = some (.atom (.prop nm), rest) := by
  obtain ⟨⟨hne, hall⟩, h3, hV, hkw⟩ := hv
  cases nm with
  | nil => exact absurd rfl hne
  | cons c n' =>
    have hc : isName K c = true := hall c (by simp)
    have hws : ¬ K.isWs c = true := by rw [name_not_ws hK hc]; simp
    have hsp : ∀ s ∈ specials, ¬ c = s := name_ne_special hK hc
    have hn' : ∀ x ∈ n', isName K x = true := fun x hx => hall x (by simp [hx])
    simp only [List.cons_append, lexTok]
    rw [if_neg hws, if_neg (hsp '~' (by decide)), if_neg (hsp '&' (by decide)),
      if_neg (hsp '|' (by decide)), if_neg (hsp '^' (by decide)), if_neg (hsp '=' (by decide)),
      if_neg (hsp '<' (by decide)), if_neg (hsp '>' (by decide))]
    by_cases hEA : ((decide (c = 'E') || decide (c = 'A')) && isTempOp (n' ++ rest).head?) = true
    · -- the name begins like a two-letter operator: it has a third character, or it would be that operator
      rw [if_pos hEA]
      simp only [Bool.and_eq_true] at hEA
      cases n' with
      | nil =>
        exfalso
        cases rest with
        | nil => simp [isTempOp] at hEA
        | cons r rs =>
          have hr := hs r rfl
          have : isTempOp (some r) = true := by simpa using hEA.2
          simp only [isTempOp, Bool.or_eq_true, beq_iff_eq] at this
          rcases this with (((rfl | rfl) | rfl) | rfl) | rfl <;>
            (rw [letter_name hK (by decide)] at hr; cases hr)
      | cons c2 n'' =>
        have h2 : isTempOp (some c2) = true := by simpa using hEA.2
        cases n'' with
        | nil =>
          exfalso
          obtain ⟨t, ht⟩ := tempUn_some_of hEA.1 h2
          rw [hkw c c2 rfl] at ht
          cases ht
        | cons c3 n3 =>
          have hc3 : nextIsName K (c3 :: (n3 ++ rest)) = true := hall c3 (by simp)
          have := collectName_app (c3 :: n3) rest (fun x hx => hn' x (List.mem_cons_of_mem _ hx)) hs
          simp only [List.cons_append] at this ⊢
          rw [if_pos hc3, nameTok, this]
          rfl
    · -- `3` and `V` are hybrid operators only when no name character follows
      have hcn := collectName_app n' rest hn' hs
      have one : ∀ d, c :: n' ≠ [d] → ¬ (decide (c = d) && !nextIsName K (n' ++ rest)) = true :=
        fun d hd => by rw [lone_iff, hcn]; exact hd
      rw [if_neg hEA, if_neg (hsp '!' (by decide)), if_neg (one '3' h3), if_neg (one 'V' hV),
        if_neg (hsp '@' (by decide)), if_neg (hsp '\\' (by decide)), if_neg (hsp ')' (by decide)),
        if_neg (hsp '(' (by decide)), if_neg (hsp '{' (by decide)),
        if_neg (by rw [decide_eq_false (hsp '%' (by decide))]; simp), if_pos hc, nameTok, hcn]
      rfl

theorem collectVarDom_complete {pd : Bool} {seg : List Char} {v : Name} {d : Option Name} (h : Seg K pd seg v d) (rest : List Char) :
    collectVarDom K pd (seg ++ rest) = some (v, d, rest) := by
  -- `e1`, `e2`, … are the steps of `collectVarDom` through the segment in order; the final `simp` runs it with them
  cases h with
  | plain pd w1 w2 v hw1 hw2 hv =>
    have e1 : skipWs K (w1 ++ '{' :: (v ++ '}' :: (w2 ++ [':'])) ++ rest) = '{' :: (v ++ '}' :: (w2 ++ ':' :: rest)) := by
      have := skipWs_app w1 (v ++ '}' :: (w2 ++ ':' :: rest)) hw1 (not_ws hK '{')
      simpa using this
    have e2 := collectName_app v ('}' :: (w2 ++ ':' :: rest)) hv.2 (sep_special hK _)
    have e3 : skipWs K (w2 ++ ':' :: rest) = ':' :: rest :=
      skipWs_app w2 rest hw2 (not_ws hK ':')
    unfold collectVarDom
    rw [e1]
    cases pd <;> simp [expect, e2, hv.isEmpty, e3, domPart]
  | dom w1 w2 w3 w4 v dn hw1 hw2 hw3 hw4 hv hd =>
    have e1 : skipWs K (w1 ++ '{' :: (v ++ '}' :: (w2 ++ 'i' :: 'n' :: (w3 ++ '%' :: (dn ++ '%' :: (w4 ++ [':']))))) ++ rest)
        = '{' :: (v ++ '}' :: (w2 ++ 'i' :: 'n' :: (w3 ++ '%' :: (dn ++ '%' :: (w4 ++ ':' :: rest))))) := by
      have := skipWs_app w1 (v ++ '}' :: (w2 ++ 'i' :: 'n' :: (w3 ++ '%' :: (dn ++ '%' :: (w4 ++ ':' :: rest))))) hw1
        (not_ws hK '{')
      simpa using this
    have e2 := collectName_app v ('}' :: (w2 ++ 'i' :: 'n' :: (w3 ++ '%' :: (dn ++ '%' :: (w4 ++ ':' :: rest))))) hv.2
      (sep_special hK _)
    have e3 : skipWs K (w2 ++ 'i' :: 'n' :: (w3 ++ '%' :: (dn ++ '%' :: (w4 ++ ':' :: rest))))
        = 'i' :: 'n' :: (w3 ++ '%' :: (dn ++ '%' :: (w4 ++ ':' :: rest))) :=
      skipWs_app w2 _ hw2 (letter_not_ws hK)
    have e4 : skipWs K (w3 ++ '%' :: (dn ++ '%' :: (w4 ++ ':' :: rest))) = '%' :: (dn ++ '%' :: (w4 ++ ':' :: rest)) :=
      skipWs_app w3 _ hw3 (not_ws hK '%')
    have e5 := collectName_app dn ('%' :: (w4 ++ ':' :: rest)) hd.2 (sep_special hK _)
    have e6 : skipWs K (w4 ++ ':' :: rest) = ':' :: rest :=
      skipWs_app w4 _ hw4 (not_ws hK ':')
    unfold collectVarDom
    rw [e1]
    simp [expect, e2, hv.isEmpty, e3, domPart, e4, e5, hd.isEmpty, e6]

theorem seg_sep {pd : Bool} {seg : List Char} {v : Name} {d : Option Name} (h : Seg K pd seg v d) (rest : List Char) :
    Sep K (seg ++ rest) := by
  have key : ∀ (w1 tail : List Char), AllWs K w1 → Sep K (w1 ++ '{' :: tail) := by
    intro w1 tail hw
    cases w1 with
    | nil => exact sep_special hK _
    | cons c w => intro x hx; simp at hx; subst hx; exact hK.ws_not_name _ (hw _ (by simp))
  cases h with
  | plain pd w1 w2 v hw1 _ _ => simpa using key w1 _ hw1
  | dom w1 w2 w3 w4 v dn hw1 _ _ _ _ _ => simpa using key w1 _ hw1

end Lex
end Hctl
