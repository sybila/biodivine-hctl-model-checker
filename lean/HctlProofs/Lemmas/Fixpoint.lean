/-
  The `while old != new` loop on a finite universe: its result is an iterate that the body leaves unchanged.
-/
import HctlProofs.Lemmas.Sets
namespace Hctl

/-- iterates of `g` from `a`; induction over it is the invariant rule of the loop -/
inductive Iter (g : CSet → CSet) (a : CSet) : CSet → Prop
  | base : Iter g a a
  | step {x} : Iter g a x → Iter g a (g x)

namespace Ops
variable (E : Env)

/-- the fuel suffices if a bounded measure grows at every unequal step -/
theorem whileNe_run (f : CSet → CSet) (μ : CSet → Nat) (B : Nat) (hμB : ∀ a, μ a ≤ B)
    (hgrow : ∀ a, ¬ EqOn E.pts (E.tab (f a)) a → μ a < μ (E.tab (f a))) {init : CSet} :
    ∀ n y, Iter (fun a => E.tab (f a)) init y → B < n + μ y →
      ∃ y', Iter (fun a => E.tab (f a)) init y' ∧ whileNe E f n (E.tab (f y)) y = E.tab (f y') ∧
        EqOn E.pts (E.tab (f y')) y' := by
  intro n
  induction n with
  | zero => intro y _ hn; have := hμB y; omega
  | succ n ih =>
    intro y hy hn
    unfold whileNe
    by_cases heq : eqOn E.pts (E.tab (f y)) y = true
    · rw [if_pos heq]
      exact ⟨y, hy, rfl, eqOn_iff.mp heq⟩
    · rw [if_neg heq]
      have := hgrow y fun h => heq (eqOn_iff.mpr h)
      exact ih _ (.step hy) (by omega)

/-- The loop as the evaluator starts it (`new = ∅`, fuel `|pts| + 2`), for a body that only adds or only removes points.
`h0`: an empty `init` equals `new` and is returned at once, so it has to be a fixed point itself. -/
theorem whileNe_fix (f : CSet → CSet) (init : CSet)
    (hdir : (∀ a, SubOn E.pts (E.tab (f a)) a) ∨ (∀ a, SubOn E.pts a (E.tab (f a))))
    (h0 : EqOn E.pts init CSet.empty → EqOn E.pts (E.tab (f init)) init) :
    ∃ y, Iter (fun a => E.tab (f a)) init y ∧
      EqOn E.pts (whileNe E f (E.pts.length + 2) init CSet.empty) y ∧ EqOn E.pts (E.tab (f y)) y := by
  have run : ∃ y, Iter (fun a => E.tab (f a)) init y ∧
      whileNe E f (E.pts.length + 1) (E.tab (f init)) init = E.tab (f y) ∧ EqOn E.pts (E.tab (f y)) y := by
    rcases hdir with hdefl | hinfl
    · exact whileNe_run E f (fun a => E.pts.length - card E.pts a) E.pts.length (fun a => Nat.sub_le _ _)
        (fun a hne => by
          have := card_lt (hdefl a) hne
          have := card_le_length E.pts a
          omega) _ init .base (by omega)
    · exact whileNe_run E f (card E.pts) E.pts.length (card_le_length _)
        (fun a hne => card_lt (hinfl a) fun h => hne h.symm) _ init .base (by omega)
  unfold whileNe
  by_cases heq : eqOn E.pts init CSet.empty = true
  · rw [if_pos heq]
    exact ⟨init, .base, EqOn.refl _, h0 (eqOn_iff.mp heq)⟩
  · rw [if_neg heq]
    obtain ⟨y, hy, hr, hfix⟩ := run
    exact ⟨y, hy, hr ▸ hfix, hfix⟩

end Ops
end Hctl
