/-
  Renaming of variable names in trees: canonisation keeps the shape; a tree with a single variable name means the
  same, read at another variable slot, after renaming that name.
-/
import HctlProofs.Lemmas.SatCongr
import HctlProofs.Lemmas.CanonTree
namespace Hctl
open C09

theorem mapVars_comp (f g : Name → Name) : ∀ t : Tree, (t.mapVars f).mapVars g = t.mapVars (g ∘ f) := by
  intro t
  induction t with
  | atom a => cases a <;> simp [Tree.mapVars]
  | un o c ih => simp [Tree.mapVars, ih]
  | bin o l r ihl ihr => simp [Tree.mapVars, ihl, ihr]
  | hyb o x d c ih => simp [Tree.mapVars, ih]

theorem mapVars_congr (f g : Name → Name) : ∀ t : Tree, (∀ x ∈ varNames t, f x = g x) → t.mapVars f = t.mapVars g := by
  intro t
  induction t with
  | atom a =>
    intro h
    cases a <;> simp [Tree.mapVars]
    exact h _ (by simp [varNames])
  | un o c ih => intro h; simp [Tree.mapVars, ih h]
  | bin o l r ihl ihr =>
    intro h
    simp only [varNames, List.mem_append] at h
    simp [Tree.mapVars, ihl (fun x hx => h x (Or.inl hx)), ihr (fun x hx => h x (Or.inr hx))]
  | hyb o x d c ih =>
    intro h
    simp only [varNames, List.mem_cons] at h
    simp [Tree.mapVars, ih (fun y hy => h y (Or.inr hy)), h x (Or.inl rfl)]

theorem mapVars_id : ∀ t : Tree, t.mapVars (fun x => x) = t := by
  intro t
  induction t with
  | atom a => cases a <;> rfl
  | un o c ih => rw [Tree.mapVars, ih]
  | bin o l r ihl ihr => rw [Tree.mapVars, ihl, ihr]
  | hyb o x d c ih => rw [Tree.mapVars, ih]

theorem mapVars_id_on (f : Name → Name) (t : Tree) (h : ∀ x ∈ varNames t, f x = x) : t.mapVars f = t :=
  (mapVars_congr f (fun x => x) t h).trans (mapVars_id t)

/-- C09: canonisation only changes variable names -/
theorem canonTreeAux_shape (z : Name) : ∀ (t : Tree) (st : CanonT),
    (canonTreeAux t st).1.mapVars (fun _ => z) = t.mapVars (fun _ => z) := by
  intro t
  induction t with
  | atom a => intro st; cases a <;> rfl
  | un o c ih => exact fun st => congrArg (Tree.un o) (ih st)
  | bin o l r ihl ihr =>
    intro st
    show Tree.bin o _ _ = Tree.bin o _ _
    rw [ihl, ihr]
  | hyb o x d c ih =>
    intro st
    rw [canonTreeAux_hyb]
    exact congrArg (Tree.hyb o z d) (ih _)

theorem varNames_mapVars (f : Name → Name) : ∀ t : Tree, varNames (t.mapVars f) = (varNames t).map f := by
  intro t
  induction t with
  | atom a => cases a <;> simp [Tree.mapVars, varNames]
  | un o c ih => simp [Tree.mapVars, varNames, ih]
  | bin o l r ihl ihr => simp [Tree.mapVars, varNames, ihl, ihr]
  | hyb o x d c ih => simp [Tree.mapVars, varNames, ih]

/-- C09: two single-name trees with the same canonical form differ only by that name -/
theorem eq_mapVars_of_canon_eq (t1 t2 : Tree) (st1 st2 : CanonT) (v2 : Name)
    (h : (canonTreeAux t1 st1).1 = (canonTreeAux t2 st2).1) (h2 : OnlyVar v2 t2) :
    t2 = t1.mapVars (fun _ => v2) := by
  have a := canonTreeAux_shape [] t1 st1
  have b := canonTreeAux_shape [] t2 st2
  rw [h, b] at a
  have c := congrArg (Tree.mapVars (fun _ => v2)) a
  rw [mapVars_comp, mapVars_comp] at c
  have d : t2.mapVars ((fun _ => v2) ∘ fun (_ : Name) => ([] : Name)) = t2 :=
    mapVars_id_on _ t2 (fun x hx => (h2 x hx).symm)
  rw [d] at c
  exact c

/-- C09: a tree whose only variable name is `x1` means, with slot `varId x1` holding `a`, what its renaming to `x2` means
with slot `varId x2` holding `a` -/
theorem sat_renameVar (G : Graph) (K : SemCtx) (hSC : CtxSC K) (x1 x2 : Name) :
    ∀ t s c (v v' : List Nat), OnlyVar x1 t → varId x1 < v.length → varId x2 < v'.length →
      (Point.mk s c v).getV (varId x1) = (Point.mk s c v').getV (varId x2) →
      (sat G K t ⟨s, c, v⟩ ↔ sat G K (t.mapVars (fun _ => x2)) ⟨s, c, v'⟩) := by
  intro t
  induction t with
  | atom a =>
    intro s c v v' hx hl hl' hv
    cases a with
    | var x =>
      have : x = x1 := hx x (by simp [varNames])
      subst this
      simp only [sat, Tree.mapVars]
      rw [hv]
    | wild w =>
      exact exists_congr fun a => and_congr_right fun ha => by rw [hSC.wild w a ha ⟨s, c, v⟩ ⟨s, c, v'⟩ rfl rfl]
    | _ => exact Iff.rfl
  | un o c ih =>
    intro s cc v v' hx hl hl' hv
    rw [Tree.mapVars, sat_un, sat_un]
    exact stepUn_congr o s fun t => ih t cc v v' hx hl hl' hv
  | bin o l r ihl ihr =>
    intro s cc v v' hx hl hl' hv
    simp only [OnlyVar, varNames, List.mem_append] at hx
    rw [Tree.mapVars, sat_bin, sat_bin]
    exact stepBin_congr o s (fun t => ihl t cc v v' (fun x h => hx x (Or.inl h)) hl hl' hv)
      (fun t => ihr t cc v v' (fun x h => hx x (Or.inr h)) hl hl' hv)
  | hyb o x dom c ih =>
    intro s cc v v' hx hl hl' hv
    simp only [OnlyVar, varNames, List.mem_cons] at hx
    have hxx : x = x1 := hx x (Or.inl rfl)
    subst hxx
    have hxc : ∀ y ∈ varNames c, y = x := fun y hy => hx y (Or.inr hy)
    rw [Tree.mapVars, sat_hyb, sat_hyb]
    refine stepHyb_congr o s (fun t => inDom_congr hSC dom rfl rfl) (fun _ => ?_) (fun _ t => ?_)
    · show sat G K c ⟨_, cc, v⟩ ↔ sat G K _ ⟨_, cc, v'⟩
      rw [hv]
      exact ih _ cc v v' hxc hl hl' hv
    · apply ih s cc _ _ hxc (by simpa using hl) (by simpa using hl')
      exact (setV_getV_same ⟨s, cc, v⟩ _ t hl).trans (setV_getV_same ⟨s, cc, v'⟩ _ t hl').symm

end Hctl
