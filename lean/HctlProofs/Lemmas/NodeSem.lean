/-
  Per-node semantic lemmas: the hybrid operators of `Ops`, and what `evalUn`, `evalBin`, `hybridQuantifier`
  compute from exact results for the children (`sem_evalUn/Bin`, `sem_quant`), which is what both evaluators use.
-/
import HctlProofs.Lemmas.LoopSem
import HctlProofs.Lemmas.SatStep
namespace Hctl

theorem mem_projectOutState {E : Env} {a : CSet} {p : Point} :
    Ops.projectOutState E a p = true ↔ ∃ t, t < E.G.nS ∧ a (p.setS t) = true := by
  simp only [Ops.projectOutState, any_range_iff]

theorem mem_projectOutVar {E : Env} {a : CSet} {i : Nat} {p : Point} :
    Ops.projectOutVar E i a p = true ↔ ∃ t, t < E.G.nS ∧ a (p.setV i t) = true := by
  simp only [Ops.projectOutVar, any_range_iff]

section hybrid
variable {E : Env} (hE : EnvOK E)
include hE

/-- `substitute_hctl_var` for two different variable slots: read the set at slot `i` := value of slot `j` -/
theorem mem_substituteVar {U a : CSet} {i j : Nat} (hij : i ≠ j) (hi : i < E.G.k) {p : Point} (hp : p ∈ E.pts) :
    Ops.substituteVar E U a i j p = true ↔ (a (p.setV i (p.getV j)) = true ∧ U p = true) := by
  have hlen : i < p.v.length := by rw [hE.len_v hp]; exact hi
  simp only [Ops.substituteVar, CSet.inter, Bool.and_eq_true]
  rw [mem_projectOutVar]
  constructor
  · rintro ⟨⟨t, ht, h⟩, hu⟩
    simp only [Ops.comparatorTwoVars, Bool.and_eq_true, beq_iff_eq] at h
    rw [setV_getV_same p i t hlen, setV_getV_ne p i j t hij] at h
    rw [← h.2]
    exact ⟨h.1, hu⟩
  · rintro ⟨h, hu⟩
    refine ⟨⟨p.getV j, hE.getV_lt j hp, ?_⟩, hu⟩
    simp only [Ops.comparatorTwoVars, Bool.and_eq_true, beq_iff_eq]
    rw [setV_getV_same p i _ hlen, setV_getV_ne p i j _ hij]
    exact ⟨h, rfl⟩

/-- projecting the state out of a set pinned to "state = variable `i`" reads the rest of the set there -/
theorem mem_projectOut_comparator {U0 st U a : CSet} {d : Nat} (hU : UnitOK E U0 st U d) (i : Nat) {q : Point}
    (hq : q ∈ E.pts) :
    Ops.projectOutState E ((Ops.comparatorVarState U i).inter a) q = true ↔
      (U q = true ∧ a (q.setS (q.getV i)) = true) := by
  rw [mem_projectOutState]
  simp only [CSet.mem_inter, Ops.comparatorVarState, Bool.and_eq_true, beq_iff_eq, setS_getV, setS_s]
  constructor
  · rintro ⟨t, ht, ⟨hu, rfl⟩, ha⟩
    exact ⟨hU.stateIndep q hq _ ht ▸ hu, ha⟩
  · rintro ⟨hu, ha⟩
    have ht := hE.getV_lt i hq
    exact ⟨q.getV i, ht, ⟨by rw [hU.stateIndep q hq _ ht]; exact hu, rfl⟩, ha⟩

theorem sem_jump {U0 st U c : CSet} {d : Nat} {φ : Point → Prop} (hU : UnitOK E U0 st U d) (hc : Sem E c U φ)
    (i : Nat) : Sem E (Ops.evalJump E U c i) U (fun p => φ (p.setS (p.getV i))) := by
  intro p hp
  have ht := hE.getV_lt i hp
  have hq := hE.setS_mem hp ht
  refine (mem_projectOut_comparator hE hU i hp).trans (and_congr_right fun hu => ?_)
  rw [hc _ hq, hU.stateIndep p hp _ ht]
  exact and_iff_right hu

/-- the child was evaluated in a universe `U'` = `U` restricted by a condition `δ` -/
theorem sem_exists {U0 st U U' c : CSet} {i : Nat} {φ δ : Point → Prop}
    (hU : UnitOK E U0 st U i) (hU' : ∀ q ∈ E.pts, (U' q = true ↔ (U q = true ∧ δ q)))
    (hc : Sem E c U' φ) :
    Sem E (Ops.evalExists E c i) U (fun p => ∃ t, t < E.G.nS ∧ δ (p.setV i t) ∧ φ (p.setV i t)) := by
  intro p hp
  simp only [Ops.evalExists]
  rw [mem_projectOutVar]
  constructor
  · rintro ⟨t, ht, h⟩
    have hq := hE.setV_mem hp (i := i) ht
    have h1 := (hc _ hq).mp h
    have h2 := (hU' _ hq).mp h1.1
    refine ⟨?_, t, ht, h2.2, h1.2⟩
    rw [← hU.indepFrom p hp i t (Nat.le_refl i) ht]; exact h2.1
  · rintro ⟨hu, t, ht, hδ, hφ⟩
    have hq := hE.setV_mem hp (i := i) ht
    have huq : U (p.setV i t) = true := by rw [hU.indepFrom p hp i t (Nat.le_refl i) ht]; exact hu
    exact ⟨t, ht, (hc _ hq).mpr ⟨(hU' _ hq).mpr ⟨huq, hδ⟩, hφ⟩⟩

/-- `eval_bind` is `eval_exists` of the child cut down to "variable = state" -/
theorem sem_bind {U0 st U U' c : CSet} {i : Nat} {φ δ : Point → Prop} (hik : i < E.G.k)
    (hU : UnitOK E U0 st U i) (hU' : ∀ q ∈ E.pts, (U' q = true ↔ (U q = true ∧ δ q)))
    (hc : Sem E c U' φ) :
    Sem E (Ops.evalBind E U c i) U (fun p => δ (p.setV i p.s) ∧ φ (p.setV i p.s)) := by
  have hc' : Sem E ((Ops.comparatorVarState U i).inter c) U' (fun q => q.getV i = q.s ∧ φ q) := by
    intro q hq
    rw [CSet.mem_inter, hc q hq]
    simp only [Ops.comparatorVarState, Bool.and_eq_true, beq_iff_eq]
    exact ⟨fun ⟨⟨_, hv⟩, hu', hφ⟩ => ⟨hu', hv, hφ⟩, fun ⟨hu', hv, hφ⟩ => ⟨⟨((hU' q hq).mp hu').1, hv⟩, hu', hφ⟩⟩
  refine (sem_exists hE hU hU' hc').iff fun p hp _ => ?_
  have hlen : i < p.v.length := by rw [hE.len_v hp]; exact hik
  constructor
  · rintro ⟨t, _, hδ, hv, hφ⟩
    rw [setV_getV_same p i t hlen, setV_s] at hv
    subst hv
    exact ⟨hδ, hφ⟩
  · exact fun ⟨hδ, hφ⟩ => ⟨p.s, hE.s_lt hp, hδ, setV_getV_same p i _ hlen, hφ⟩

theorem sem_forall {U0 st U U' c : CSet} {i : Nat} {φ δ : Point → Prop}
    (hU : UnitOK E U0 st U i) (hU' : ∀ q ∈ E.pts, (U' q = true ↔ (U q = true ∧ δ q)))
    (hc : Sem E c U' φ) :
    Sem E (Ops.evalNeg U (Ops.evalExists E (Ops.evalNeg U' c) i)) U
      (fun p => ∀ t, t < E.G.nS → δ (p.setV i t) → φ (p.setV i t)) := by
  have h1 : Sem E (Ops.evalNeg U' c) U' (fun p => ¬ φ p) := sem_neg hc
  have h2 := sem_neg (sem_exists hE hU hU' h1)
  exact h2.iff fun p _ _ => by simp only [not_exists, not_and, Classical.not_not]

theorem mem_validDomain {U0 st U ds : CSet} {d i : Nat} (hU : UnitOK E U0 st U d) {q : Point} (hq : q ∈ E.pts) :
    Ops.validDomain E U ds i q = true ↔ (U q = true ∧ ds (q.setS (q.getV i)) = true) := by
  rw [← mem_projectOut_comparator hE hU i hq]
  simp only [Ops.validDomain, Ops.projectOutState, CSet.inter, Bool.and_comm]

end hybrid

theorem UnitOK.weaken {E : Env} {U0 st U : CSet} {d : Nat} (h : UnitOK E U0 st U d) :
    UnitOK E U0 st U (d + 1) :=
  ⟨h.steady, h.stateIndep, fun p hp i t hi ht => h.indepFrom p hp i t (Nat.le_of_succ_le hi) ht, h.sub0⟩

section node
variable {E : Env} (hE : EnvOK E) (K : SemCtx)
include hE

theorem mem_restrictedUnit {U0 st U ds : CSet} {d : Nat} (hU : UnitOK E U0 st U d) {q : Point} (hq : q ∈ E.pts) :
    E.tab (U.inter (Ops.validDomain E U ds d)) q = true ↔ (U q = true ∧ ds (q.setS (q.getV d)) = true) := by
  rw [hE.tab_ok _ q hq]
  simp only [CSet.inter, Bool.and_eq_true]
  rw [mem_validDomain hE hU hq]
  exact ⟨fun h => h.2, fun h => ⟨h.1, h⟩⟩

theorem UnitOK.restrict {U0 st U U' ds : CSet} {d : Nat} {l : Name} (hU : UnitOK E U0 st U d) (hK : CtxOK E K)
    (hl : K.dom l = some ds)
    (hmem : ∀ q ∈ E.pts, (U' q = true ↔ (U q = true ∧ ds (q.setS (q.getV d)) = true))) :
    UnitOK E U0 st U' (d + 1) := by
  refine ⟨hU.steady, ?_, ?_, fun p hp h => hU.sub0 p hp ((hmem p hp).mp h).1⟩
  · intro p hp t ht
    have h1 := hmem _ (hE.setS_mem hp ht)
    rw [hU.stateIndep p hp t ht] at h1
    exact Bool.eq_iff_iff.mpr (h1.trans (hmem _ hp).symm)
  · intro p hp i t hi ht
    have h1 := hmem _ (hE.setV_mem hp (i := i) ht)
    rw [hU.indepFrom p hp i t (by omega) ht, setV_getV_ne p i d t (by omega), setV_setS,
      hK.domIndep l ds hl _ (hE.setS_mem hp (hE.getV_lt d hp)) i t ht] at h1
    exact Bool.eq_iff_iff.mpr (h1.trans (hmem _ hp).symm)

theorem inDom_at_setV (hK : CtxOK E K) (dom : Option Name) {p : Point} (hp : p ∈ E.pts) {d t : Nat}
    (hd : d < E.G.k) (ht : t < E.G.nS) :
    inDom K dom ((p.setV d t).setS ((p.setV d t).getV d)) ↔ inDom K dom (p.setS t) := by
  rw [setV_getV_same p d t (by rw [hE.len_v hp]; exact hd), setV_setS]
  exact inDom_congr_of dom fun l a ha => hK.domIndep l a ha _ (hE.setS_mem hp ht) d t ht

/-- `U'`: `U` restricted by the domain (if any) of the quantified variable -/
theorem sem_quant {U0 st U U' c : CSet} {d : Nat} (hK : CtxOK E K) (hU : UnitOK E U0 st U d) (op : HybOp)
    (hj : op ≠ .jump) (v : Name) (hvd : varId v = d) (hdk : d < E.G.k) (dom : Option Name) (tc : Tree)
    (hU' : ∀ q ∈ E.pts, (U' q = true ↔ (U q = true ∧ inDom K dom (q.setS (q.getV d)))))
    (hc : Sem E c U' (sat E.G K tc)) :
    Sem E (Eval.hybridQuantifier E U U' op (varId v) c) U (sat E.G K (.hyb op v dom tc)) := by
  subst hvd
  cases op with
  | jump => exact absurd rfl hj
  | bind =>
    exact (sem_bind hE hdk hU hU' hc).iff fun p hp _ =>
      and_congr (inDom_at_setV hE K hK dom hp hdk (hE.s_lt hp)) Iff.rfl
  | ex =>
    exact (sem_exists hE hU hU' hc).iff fun p hp _ =>
      exists_congr fun t => and_congr_right fun ht => and_congr (inDom_at_setV hE K hK dom hp hdk ht) Iff.rfl
  | all =>
    exact (sem_forall hE hU hU' hc).iff fun p hp _ =>
      forall_congr' fun t => imp_congr_right fun ht => imp_congr (inDom_at_setV hE K hK dom hp hdk ht) Iff.rfl

theorem sem_quantNoDom {U0 st U c : CSet} {d : Nat} (hK : CtxOK E K) (hU : UnitOK E U0 st U d) (op : HybOp)
    (hj : op ≠ .jump) (v : Name) (hvd : varId v = d) (hdk : d < E.G.k) (tc : Tree) (hc : Sem E c U (sat E.G K tc)) :
    Sem E (Eval.hybridQuantifier E U U op (varId v) c) U (sat E.G K (.hyb op v none tc)) :=
  sem_quant hE K hK hU op hj v hvd hdk none tc (fun _ _ => (and_iff_left trivial).symm) hc

theorem sem_quantDom {U0 st U U' c ds : CSet} {d : Nat} (hK : CtxOK E K) (hU : UnitOK E U0 st U d) (op : HybOp)
    (hj : op ≠ .jump) (v l : Name) (hl : K.dom l = some ds) (hvd : varId v = d) (hdk : d < E.G.k) (tc : Tree)
    (hmem : ∀ q ∈ E.pts, (U' q = true ↔ (U q = true ∧ ds (q.setS (q.getV d)) = true)))
    (hc : Sem E c U' (sat E.G K tc)) :
    Sem E (Eval.hybridQuantifier E U U' op (varId v) c) U (sat E.G K (.hyb op v (some l) tc)) :=
  sem_quant hE K hK hU op hj v hvd hdk (some l) tc
    (fun q hq => (hmem q hq).trans (and_congr_right fun _ => (inDom_some hl _).symm)) hc

/-- the empty-domain shortcut of `eval_node` -/
theorem sem_emptyDom {U0 st U U' ds : CSet} {d : Nat} (hK : CtxOK E K) (hU : UnitOK E U0 st U d) (op : HybOp)
    (hj : op ≠ .jump) (v l : Name) (hl : K.dom l = some ds) (hvd : varId v = d) (hdk : d < E.G.k) (tc : Tree)
    (hmem : ∀ q ∈ E.pts, (U' q = true ↔ (U q = true ∧ ds (q.setS (q.getV d)) = true)))
    (hempty : ∀ q ∈ E.pts, U' q = false) :
    Sem E (match op with | .all => U | _ => CSet.empty) U (sat E.G K (.hyb op v (some l) tc)) := by
  subst hvd
  intro p hp
  rw [sat_hyb]
  -- for the valuation of a unit point no state is in the domain
  have hno : U p = true → ∀ t, t < E.G.nS → ¬ inDom K (some l) (p.setS t) := by
    intro hu t ht hin
    have hq := hE.setV_mem hp (i := varId v) ht
    have := (hmem _ hq).mpr ⟨by rw [hU.indepFrom p hp _ t (Nat.le_refl _) ht]; exact hu,
      (inDom_some hl _).mp ((inDom_at_setV hE K hK (some l) hp hdk ht).mpr hin)⟩
    rw [hempty _ hq] at this
    cases this
  cases op with
  | jump => exact absurd rfl hj
  | bind => exact ⟨fun h => (by cases h), fun ⟨hu, hD, _⟩ => absurd hD (hno hu _ (hE.s_lt hp))⟩
  | ex => exact ⟨fun h => (by cases h), fun ⟨hu, t, ht, hD, _⟩ => absurd hD (hno hu t ht)⟩
  | all => exact ⟨fun hu => ⟨hu, fun t ht hD => absurd hD (hno hu t ht)⟩, fun h => h.1⟩

end node

section temporal
variable {E : Env} (hE : EnvOK E) (hG : GraphWF E.G) (K : SemCtx)
include hE hG

theorem sem_evalUn {U0 st U c : CSet} {d : Nat} (hU : UnitOK E U0 st U d) (o : UnOp) (tc : Tree)
    (hc : Sem E c U (sat E.G K tc)) : Sem E (Eval.evalUn E U st o c) U (sat E.G K (.un o tc)) := by
  cases o with
  | not => exact sem_neg hc
  | ex => exact sem_ex hE hG hU hc
  | ax => exact sem_ax hE hG hU hc
  | ef => exact sem_ef hE hG hU hc
  | af => exact sem_af hE hG hU hc
  | eg => exact sem_eg_path hE hG hU hc
  | ag => exact sem_ag hE hG hU hc

theorem sem_evalBin {U0 st U l r : CSet} {d : Nat} (hU : UnitOK E U0 st U d) (o : BinOp) (tl tr : Tree)
    (hl : Sem E l U (sat E.G K tl)) (hr : Sem E r U (sat E.G K tr)) :
    Sem E (Eval.evalBin E U st o l r) U (sat E.G K (.bin o tl tr)) := by
  cases o with
  | and => exact sem_and hl hr
  | or => exact sem_or hl hr
  | xor => exact sem_xor hl hr
  | imp => exact sem_imp hl hr
  | iff => exact sem_equiv hl hr
  | eu => exact sem_eu_path hE hG hU hl hr
  | au => exact sem_au_path hE hG hU hl hr
  | ew => exact sem_ew hE hG hU hl hr
  | aw => exact sem_aw hE hG hU hl hr

end temporal
end Hctl
