/-
  C09, the converse: depth-named trees with the same canonical form are equal up to an injective renaming. With
  shadowing it fails: `∃x.∃x.x` and `∃x.∃y.y` have the same form.
-/
import HctlProofs.Lemmas.CanonRenaming
namespace Hctl
open C09

namespace Conv

/-- free names (index below `d1`) go by `φ`, quantifier names are shifted from depth `d1` to depth `d2` -/
def F (d1 d2 : Nat) (φ : Name → Name) (x : Name) : Name :=
  if varId x < d1 then φ x else xs (varId x - d1 + d2 + 1)

theorem F_bound {d1 d2 : Nat} {φ : Name → Name} (j : Nat) : F d1 d2 φ (xs (d1 + j + 1)) = xs (d2 + j + 1) := by
  rw [F, varId_xs, if_neg (Nat.not_lt.mpr (Nat.le_add_right d1 j)), Nat.add_sub_cancel_left, Nat.add_comm j d2]

/-- `t1` and `t2` canonised in step, `r` quantifiers deep: the second map is the `F`-image of the first (`fwd`, `bwd`),
only the quantifier name of a depth goes to the quantifier name of that depth (`sep`), open quantifiers are keys -/
structure Inv (d1 d2 : Nat) (φ : Name → Name) (r : Nat) (st1 st2 : CanonT) : Prop where
  stack : st1.stack = st2.stack
  inv1 : CanonInv st1
  inv2 : CanonInv st2
  fwd : ∀ x c, (x, c) ∈ st1.map → (F d1 d2 φ x, c) ∈ st2.map
  bwd : ∀ x' c, (x', c) ∈ st2.map → ∃ x, F d1 d2 φ x = x' ∧ (x, c) ∈ st1.map
  sep : ∀ x c, (x, c) ∈ st1.map → ∀ j, F d1 d2 φ x = xs (d2 + j + 1) → x = xs (d1 + j + 1)
  bound1 : ∀ i, d1 ≤ i → i < d1 + r → ∃ c, (xs (i + 1), c) ∈ st1.map
  bound2 : ∀ i, d2 ≤ i → i < d2 + r → ∃ c, (xs (i + 1), c) ∈ st2.map

theorem free_entry_kept (d0 : Nat) {y c : Name} (hy : varId y < d0) : ∀ (t : Tree) (dd : Nat) (st : CanonT), d0 ≤ dd →
    DepthNamed dd t → (y, c) ∈ st.map → (y, c) ∈ (canonTreeAux t st).2.map := by
  intro t
  induction t with
  | atom a =>
    intro dd st _ _ h
    cases a with
    | var z => exact canonVar_keeps z st h
    | _ => exact h
  | un o c ih => exact ih
  | bin o l r ihl ihr =>
    intro dd st hd hn h
    exact ihr dd _ hd hn.2 (ihl dd st hd hn.1 h)
  | hyb o v dom c ih =>
    intro dd st hd hn h
    rw [canonTreeAux_hyb, hybVar]
    rw [DepthNamed] at hn
    split at hn
    · next hj =>
      rw [if_pos hj]
      exact ih dd _ hd hn.2 (canonVar_keeps v st h)
    · next hj =>
      rw [if_neg hj]
      -- the quantifier binds a name of index `dd ≥ d0`: not `y`
      refine ih (dd + 1) _ (by omega) hn.2 (mem_mapInsert.mpr (Or.inr ⟨fun hyv => ?_, h⟩))
      rw [hyv, hn.1, varId_xs] at hy
      omega

inductive SameShape : Tree → Tree → Prop
  | var (x y : Name) : SameShape (.atom (.var x)) (.atom (.var y))
  | atom (a : Atom) (ha : ∀ x, a ≠ .var x) : SameShape (.atom a) (.atom a)
  | un (o : UnOp) {c c' : Tree} : SameShape c c' → SameShape (.un o c) (.un o c')
  | bin (o : BinOp) {l l' r r' : Tree} : SameShape l l' → SameShape r r' → SameShape (.bin o l r) (.bin o l' r')
  | hyb (o : HybOp) (x y : Name) (d : Option Name) {c c' : Tree} : SameShape c c' → SameShape (.hyb o x d c) (.hyb o y d c')

theorem shape_atom (z : Name) (a : Atom) (t2 : Tree) (h : Tree.atom a = t2.mapVars (fun _ => z))
    (hnv : ∀ x, a ≠ .var x) : t2 = .atom a := by
  cases t2 with
  | atom b =>
    cases b with
    | var y => simp only [Tree.mapVars, Tree.atom.injEq] at h; exact absurd h (hnv z)
    | _ => simpa [Tree.mapVars] using h.symm
  | _ => cases h

theorem sameShape_of_eq (z : Name) : ∀ t1 t2 : Tree, t1.mapVars (fun _ => z) = t2.mapVars (fun _ => z) → SameShape t1 t2 := by
  intro t1
  induction t1 with
  | atom a =>
    intro t2 h
    cases a with
    | var x =>
      cases t2 with
      | atom b =>
        cases b with
        | var y => exact .var x y
        | _ => cases h
      | _ => cases h
    | _ =>
      have := shape_atom z _ t2 (by simpa [Tree.mapVars] using h) (by intro x; simp)
      exact this ▸ .atom _ (by intro x; simp)
  | un o c ih =>
    intro t2 h
    cases t2 with
    | un o' c' =>
      simp only [Tree.mapVars, Tree.un.injEq] at h
      exact h.1 ▸ .un o (ih c' h.2)
    | atom a => cases a <;> cases h
    | _ => cases h
  | bin o l r ihl ihr =>
    intro t2 h
    cases t2 with
    | bin o' l' r' =>
      simp only [Tree.mapVars, Tree.bin.injEq] at h
      exact h.1 ▸ .bin o (ihl l' h.2.1) (ihr r' h.2.2)
    | atom a => cases a <;> cases h
    | _ => cases h
  | hyb o x d c ih =>
    intro t2 h
    cases t2 with
    | hyb o' y d' c' =>
      simp only [Tree.mapVars, Tree.hyb.injEq] at h
      obtain ⟨rfl, _, rfl, hc⟩ := h
      exact .hyb o x y d (ih c' hc)
    | atom a => cases a <;> cases h
    | _ => cases h

section step
variable {d1 d2 : Nat} {φ : Name → Name}

theorem free_of_lookup_none {d r i : Nat} {m : List (Name × Name)}
    (hb : ∀ i, d ≤ i → i < d + r → ∃ c, (xs (i + 1), c) ∈ m) (hi : i < d + r) (hl : m.lookup (xs (i + 1)) = none) :
    i < d := by
  refine Nat.lt_of_not_le fun hge => ?_
  obtain ⟨c, hc⟩ := hb i hge hi
  exact lookup_ne_none_of_mem hc hl

/-- the one step that changes the states: corresponding names get the same fresh canonical name -/
theorem Inv.insert {r : Nat} {st1 st2 : CanonT} (h : Inv d1 d2 φ r st1 st2) {x1 x2 : Name} (hF : F d1 d2 φ x1 = x2)
    (hother : ∀ x c, (x, c) ∈ st1.map → x ≠ x1 → F d1 d2 φ x ≠ x2)
    (hsep : ∀ j, x2 = xs (d2 + j + 1) → x1 = xs (d1 + j + 1)) :
    Inv d1 d2 φ r ⟨mapInsert x1 (canonName st1.stack) st1.map, st1.stack + 1⟩
      ⟨mapInsert x2 (canonName st2.stack) st2.map, st2.stack + 1⟩ := by
  refine ⟨by simp [h.stack], h.inv1.insert _, h.inv2.insert _, ?_, ?_, ?_,
    fun i hge hi => mapInsert_keeps_keys (h.bound1 i hge hi), fun i hge hi => mapInsert_keeps_keys (h.bound2 i hge hi)⟩
  · intro x c hm
    rcases mem_mapInsert.mp hm with ⟨rfl, rfl⟩ | ⟨hne, hm'⟩
    · rw [hF, h.stack]; exact mem_mapInsert.mpr (Or.inl ⟨rfl, rfl⟩)
    · exact mem_mapInsert.mpr (Or.inr ⟨hother x c hm' hne, h.fwd x c hm'⟩)
  · intro x' c hm
    rcases mem_mapInsert.mp hm with ⟨rfl, rfl⟩ | ⟨hne, hm'⟩
    · exact ⟨x1, hF, by rw [← h.stack]; exact mem_mapInsert.mpr (Or.inl ⟨rfl, rfl⟩)⟩
    · obtain ⟨x, hx, hxm⟩ := h.bwd x' c hm'
      exact ⟨x, hx, mem_mapInsert.mpr (Or.inr ⟨fun hxe => hne (hx.symm.trans (hxe ▸ hF)), hxm⟩)⟩
  · intro x c hm j hj
    rcases mem_mapInsert.mp hm with ⟨rfl, _⟩ | ⟨_, hm'⟩
    · exact hsep j (hF.symm.trans hj)
    · exact h.sep x c hm' j hj

theorem paired_at_binder {r : Nat} {st1 st2 : CanonT} (h : Inv d1 d2 φ r st1 st2) :
    Inv d1 d2 φ (r + 1) ⟨mapInsert (xs (d1 + r + 1)) (canonName st1.stack) st1.map, st1.stack + 1⟩
      ⟨mapInsert (xs (d2 + r + 1)) (canonName st2.stack) st2.map, st2.stack + 1⟩ := by
  have hF : F d1 d2 φ (xs (d1 + r + 1)) = xs (d2 + r + 1) := F_bound r
  have hi := h.insert hF (fun x c hm hne hFx => hne (h.sep x c hm r hFx)) fun j hj => by
    have := xs_inj hj
    have : j = r := by omega
    rw [this]
  exact ⟨hi.stack, hi.inv1, hi.inv2, hi.fwd, hi.bwd, hi.sep,
    fun i hge hlt => if e : i = d1 + r then e ▸ ⟨_, mem_mapInsert.mpr (Or.inl ⟨rfl, rfl⟩)⟩ else hi.bound1 i hge (by omega),
    fun i hge hlt => if e : i = d2 + r then e ▸ ⟨_, mem_mapInsert.mpr (Or.inl ⟨rfl, rfl⟩)⟩ else hi.bound2 i hge (by omega)⟩

theorem Inv.weaken {r : Nat} {st1 st2 : CanonT} (h : Inv d1 d2 φ (r + 1) st1 st2) : Inv d1 d2 φ r st1 st2 :=
  ⟨h.stack, h.inv1, h.inv2, h.fwd, h.bwd, h.sep, fun i hge hi => h.bound1 i hge (by omega), fun i hge hi => h.bound2 i hge (by omega)⟩

/- Quantifier names are paired by depth (`F` shifts them), free names by the canonical name they end with: `fin1`, `fin2`
are the renaming maps the two passes end with, and `hφ` says that `φ` follows that pairing. Entries for free names are
never overwritten (`free_entry_kept`), so what a state records for one is still there at the end: `hf1`, `hf2` below. -/
variable (fin1 fin2 : List (Name × Name))
  (hφ : ∀ y1 y2 c, varId y1 < d1 → varId y2 < d2 → (y1, c) ∈ fin1 → (y2, c) ∈ fin2 → y2 = φ y1)
include hφ

theorem paired_at_var {r : Nat} {st1 st2 : CanonT} (h : Inv d1 d2 φ r st1 st2) (y1 y2 : Name)
    (hy1 : ∃ i, i < d1 + r ∧ y1 = xs (i + 1)) (hy2 : ∃ i, i < d2 + r ∧ y2 = xs (i + 1))
    (hT : (canonVar y1 st1).1 = (canonVar y2 st2).1)
    (hf1 : ∀ c, varId y1 < d1 → (y1, c) ∈ (canonVar y1 st1).2.map → (y1, c) ∈ fin1)
    (hf2 : ∀ c, varId y2 < d2 → (y2, c) ∈ (canonVar y2 st2).2.map → (y2, c) ∈ fin2) :
    y2 = F d1 d2 φ y1 ∧ Inv d1 d2 φ r (canonVar y1 st1).2 (canonVar y2 st2).2 := by
  obtain ⟨i1, hi1, rfl⟩ := hy1
  obtain ⟨i2, hi2, rfl⟩ := hy2
  cases hl1 : st1.map.lookup (xs (i1 + 1)) with
  | some c =>
    have hm1 := mem_of_lookup hl1
    rw [canonVar_of_some hl1] at hT ⊢
    cases hl2 : st2.map.lookup (xs (i2 + 1)) with
    | some c2 =>
      rw [canonVar_of_some hl2] at hT ⊢
      obtain rfl : c = c2 := hT
      obtain ⟨x, hx, hxm⟩ := h.bwd _ _ (mem_of_lookup hl2)
      obtain rfl := h.inv1.inj x (xs (i1 + 1)) _ hxm hm1
      exact ⟨hx.symm, h⟩
    | none =>
      rw [canonVar_of_none hl2, ← h.stack] at hT
      exact absurd hT (h.inv1.ne_fresh hm1)
  | none =>
    rw [canonVar_of_none hl1] at hT hf1 ⊢
    cases hl2 : st2.map.lookup (xs (i2 + 1)) with
    | some c2 =>
      rw [canonVar_of_some hl2, h.stack] at hT
      exact absurd hT.symm (h.inv2.ne_fresh (mem_of_lookup hl2))
    | none =>
      rw [canonVar_of_none hl2] at hf2 ⊢
      -- both names are new, hence free (`free_of_lookup_none`)
      have hv1 : varId (xs (i1 + 1)) < d1 := by rw [varId_xs]; exact free_of_lookup_none h.bound1 hi1 hl1
      have hv2 : varId (xs (i2 + 1)) < d2 := by rw [varId_xs]; exact free_of_lookup_none h.bound2 hi2 hl2
      have hF : F d1 d2 φ (xs (i1 + 1)) = xs (i2 + 1) := by
        rw [F, if_pos hv1]
        exact (hφ _ _ (canonName st1.stack) hv1 hv2 (hf1 _ hv1 (mem_mapInsert.mpr (Or.inl ⟨rfl, rfl⟩)))
          (hf2 _ hv2 (h.stack ▸ mem_mapInsert.mpr (Or.inl ⟨rfl, rfl⟩)))).symm
      refine ⟨hF.symm, h.insert hF (fun x c hm _ hFx => lookup_ne_none_of_mem (hFx ▸ h.fwd x c hm) hl2) fun j hj => ?_⟩
      rw [varId_xs] at hv2
      have := xs_inj hj
      omega

theorem paired_of_sameShape {t1 t2 : Tree} (hs : SameShape t1 t2) :
    ∀ (r : Nat) (st1 st2 : CanonT), Inv d1 d2 φ r st1 st2 → DepthNamed (d1 + r) t1 → DepthNamed (d2 + r) t2 →
      (canonTreeAux t1 st1).1 = (canonTreeAux t2 st2).1 →
      (∀ y c, varId y < d1 → (y, c) ∈ (canonTreeAux t1 st1).2.map → (y, c) ∈ fin1) →
      (∀ y c, varId y < d2 → (y, c) ∈ (canonTreeAux t2 st2).2.map → (y, c) ∈ fin2) →
      t2 = t1.mapVars (F d1 d2 φ) ∧ Inv d1 d2 φ r (canonTreeAux t1 st1).2 (canonTreeAux t2 st2).2 := by
  induction hs with
  | var y1 y2 =>
    intro r st1 st2 h hn1 hn2 hT hf1 hf2
    have := paired_at_var fin1 fin2 hφ h y1 y2 hn1 hn2 (Atom.var.inj (Tree.atom.inj hT)) (hf1 y1) (hf2 y2)
    exact ⟨by rw [Tree.mapVars, this.1], this.2⟩
  | atom a ha =>
    intro r st1 st2 h _ _ _ _ _
    cases a with
    | var x => exact absurd rfl (ha x)
    | _ => exact ⟨rfl, h⟩
  | un o _ ih =>
    intro r st1 st2 h hn1 hn2 hT hf1 hf2
    have := ih r st1 st2 h hn1 hn2 (Tree.un.inj hT).2 hf1 hf2
    exact ⟨by rw [Tree.mapVars, ← this.1], this.2⟩
  | @bin o l l' r' r2 _ _ ihl ihr =>
    intro r st1 st2 h hn1 hn2 hT hf1 hf2
    replace hT := (Tree.bin.inj hT).2
    have a := ihl r st1 st2 h hn1.1 hn2.1 hT.1
      (fun y c hy hm => hf1 y c hy (free_entry_kept d1 hy r' (d1 + r) _ (by omega) hn1.2 hm))
      (fun y c hy hm => hf2 y c hy (free_entry_kept d2 hy r2 (d2 + r) _ (by omega) hn2.2 hm))
    have b := ihr r _ _ a.2 hn1.2 hn2.2 hT.2 hf1 hf2
    exact ⟨by rw [Tree.mapVars, ← a.1, ← b.1], b.2⟩
  | @hyb o v v' dom c c' _ ih =>
    intro r st1 st2 h hn1 hn2 hT hf1 hf2
    by_cases hj : o = .jump
    · subst hj
      simp only [canonTreeAux_hyb, hybVar, if_true, Tree.hyb.injEq, true_and] at hT hf1 hf2
      have hv := paired_at_var fin1 fin2 hφ h v v' hn1.1 hn2.1 hT.1
        (fun a hy hm => hf1 v a hy (free_entry_kept d1 hy c (d1 + r) _ (by omega) hn1.2 hm))
        (fun a hy hm => hf2 v' a hy (free_entry_kept d2 hy c' (d2 + r) _ (by omega) hn2.2 hm))
      have b := ih r _ _ hv.2 hn1.2 hn2.2 hT.2 hf1 hf2
      exact ⟨by rw [Tree.mapVars, ← hv.1, ← b.1], b.2⟩
    · simp only [DepthNamed, hj, if_false] at hn1 hn2
      simp only [canonTreeAux_hyb, hybVar, hj, if_false, Tree.hyb.injEq, true_and] at hT hf1 hf2
      obtain ⟨rfl, hnc1⟩ := hn1
      obtain ⟨rfl, hnc2⟩ := hn2
      have b := ih (r + 1) _ _ (paired_at_binder (φ := φ) h) (by simpa [Nat.add_assoc] using hnc1)
        (by simpa [Nat.add_assoc] using hnc2) hT.2 hf1 hf2
      exact ⟨by rw [Tree.mapVars, F_bound, ← b.1], by simpa [canonTreeAux_hyb, hybVar, hj] using b.2.weaken⟩

end step
end Conv

/-- C09, soundness for any number of variables: depth-named sub-formulae (as preprocessing produces them, at any two
quantifier depths) with the same canonical form are equal up to an injective renaming of their variables -/
theorem canon_eq_imp_renaming (t1 t2 : Tree) (d1 d2 : Nat) (hT : (canonTree t1).1 = (canonTree t2).1)
    (hn1 : DepthNamed d1 t1) (hn2 : DepthNamed d2 t2) :
    ∃ f : Name → Name, t2 = t1.mapVars f ∧ ∀ x y, x ∈ varNames t1 → y ∈ varNames t1 → f x = f y → x = y := by
  simp only [canonTree] at hT
  have i1 := canonTreeAux_inv t1 {} CanonInv.init
  have i2 := canonTreeAux_inv t2 {} CanonInv.init
  let fin1 := (canonTreeAux t1 {}).2.map
  let fin2 := (canonTreeAux t2 {}).2.map
  let φ : Name → Name := fun y => ((fin1.lookup y).bind fun c => (fin2.map Prod.swap).lookup c).getD []
  have hφ : ∀ y1 y2 c, varId y1 < d1 → varId y2 < d2 → (y1, c) ∈ fin1 → (y2, c) ∈ fin2 → y2 = φ y1 := by
    intro y1 y2 c _ _ h1 h2
    have hl1 : fin1.lookup y1 = some c := lookup_of_mem (fun c' h => i1.keys _ _ _ h h1) h1
    have hl2 : (fin2.map Prod.swap).lookup c = some y2 := by
      refine lookup_of_mem (fun y' h => ?_) (List.mem_map.mpr ⟨(y2, c), h2, rfl⟩)
      obtain ⟨⟨a, b⟩, hm, he⟩ := List.mem_map.mp h
      cases he
      exact i2.inj _ _ _ hm h2
    simp only [φ, hl1, Option.bind_some, hl2, Option.getD_some]
  have hshape : Conv.SameShape t1 t2 := by
    refine Conv.sameShape_of_eq [] t1 t2 ?_
    rw [← canonTreeAux_shape [] t1 {}, hT, canonTreeAux_shape]
  have h0 : Conv.Inv d1 d2 φ 0 {} {} :=
    ⟨rfl, CanonInv.init, CanonInv.init, fun _ _ h => by simp at h, fun _ _ h => by simp at h, fun _ _ h => by simp at h,
      fun i hge hi => by omega, fun i hge hi => by omega⟩
  obtain ⟨heq, hinv⟩ := Conv.paired_of_sameShape fin1 fin2 hφ hshape 0 {} {} h0 (by simpa using hn1) (by simpa using hn2) hT
    (fun y c _ h => h) (fun y c _ h => h)
  refine ⟨Conv.F d1 d2 φ, heq, ?_⟩
  intro x y hx hy hxy
  obtain ⟨c, hc⟩ := C09.renaming_total t1 {} x hx
  obtain ⟨c', hc'⟩ := C09.renaming_total t1 {} y hy
  have a := hinv.fwd x c hc
  have b := hinv.fwd y c' hc'
  rw [hxy] at a
  have := hinv.inv2.keys _ _ _ a b
  subst this
  exact hinv.inv1.inj x y _ hc hc'

/-- the renaming maps differ by the same renaming, so the number of variables is determined by the canonical form -/
theorem renaming_of_canon_eq (t1 t2 : Tree) (d1 d2 : Nat) (hT : (canonTree t1).1 = (canonTree t2).1)
    (hn1 : DepthNamed d1 t1) (hn2 : DepthNamed d2 t2) :
    ∃ f : Name → Name, t2 = t1.mapVars f ∧ (canonTree t2).2 = mapKeys f (canonTree t1).2 := by
  obtain ⟨f, rfl, hinj⟩ := canon_eq_imp_renaming t1 t2 d1 d2 hT hn1 hn2
  exact ⟨f, rfl, (canon_invariant_under_renaming f t1 hinj).2⟩

theorem single_name_transfer (t1 t2 : Tree) (d1 d2 : Nat) (v1 : Name)
    (hT : (canonTreeAux t1 {}).1 = (canonTreeAux t2 {}).1) (ho : OnlyVar v1 t1)
    (hd1 : DepthNamed d1 t1) (hd2 : DepthNamed d2 t2) :
    ∃ v2, OnlyVar v2 t2 := by
  obtain ⟨f, rfl, _⟩ := canon_eq_imp_renaming t1 t2 d1 d2 hT hd1 hd2
  refine ⟨f v1, fun x hx => ?_⟩
  rw [varNames_mapVars] at hx
  obtain ⟨y, hy, rfl⟩ := List.mem_map.mp hx
  rw [ho y hy]

theorem canon_eq_imp_renaming_single (k : Nat) (t1 t2 : Tree) (d1 d2 : Nat) (v1 : Name)
    (hT : (canonTree t1).1 = (canonTree t2).1) (ho : OnlyVar v1 t1) (hd1 : DepthNamed d1 t1) (hw1 : WellScoped k d1 t1)
    (hd2 : DepthNamed d2 t2) : ∃ v2, t2 = t1.mapVars (fun _ => v2) := by
  obtain ⟨v2, h2⟩ := single_name_transfer t1 t2 d1 d2 v1 hT ho hd1 hd2
  exact ⟨v2, eq_mapVars_of_canon_eq t1 t2 {} {} v2 hT h2⟩

end Hctl
