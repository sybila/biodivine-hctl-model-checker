/-
  C17 on the model: the command-line tool (`Cli.analyse`) computes what the library's batch entry points compute on the
  graph with `kOf trees` variable sets.
-/
import HctlProofs.Lemmas.EntryPoints
namespace Hctl.C17
open Cli

/-- the graphs of one network for the various numbers of variable sets -/
structure NetFamily (net : Nat → Env) : Prop where
  k_eq : ∀ k, (net k).G.k = k
  label_eq : ∀ k n, ((net k).G.label n).isSome = ((net 0).G.label n).isSome

/-- `Api.parseOne` is the tool's first loop followed by the support check -/
theorem parseOne_eq_prep (E : Env) (K : CharClass) (ext : Bool) (cs : List Char) :
    Api.parseOne E K ext cs =
      match prepOne (fun n => (E.G.label n).isSome) K ext cs with
      | .error e => .error e
      | .ok t => if t.numQuantVars > E.G.k then .error .support else .ok t := by
  unfold prepOne Api.parseOne
  cases Lex.tokenize K ext cs with
  | error e => rfl
  | ok toks =>
    dsimp only
    cases parseToks toks with
    | error e => rfl
    | ok t =>
      dsimp only
      cases rename (fun n => (E.G.label n).isSome) t with
      | error e => cases e <;> rfl
      | ok t' => rfl

theorem foldl_max_ge {α : Type} (f : α → Nat) (l : List α) : ∀ (m : Nat),
    m ≤ l.foldl (fun m a => max m (f a)) m ∧ ∀ a ∈ l, f a ≤ l.foldl (fun m a => max m (f a)) m := by
  induction l with
  | nil => exact fun m => ⟨Nat.le_refl m, nofun⟩
  | cons b l ih =>
    intro m
    obtain ⟨h1, h2⟩ := ih (max m (f b))
    refine ⟨Nat.le_trans (Nat.le_max_left ..) h1, fun a ha => ?_⟩
    rcases List.mem_cons.mp ha with rfl | ha
    · exact Nat.le_trans (Nat.le_max_right ..) h1
    · exact h2 a ha

theorem kOf_ge (trees : List Tree) : ∀ t ∈ trees, t.numQuantVars ≤ kOf trees :=
  (foldl_max_ge Tree.numQuantVars trees 0).2

/-- the library's batch parser interleaves the tool's two passes (parse all, then look up all labels); with enough
variable sets both accept the same batches -/
theorem parseAll_of_prep (E : Env) (K : CharClass) (ext : Bool) (ctxSets : List (Name × CSet)) (isNetVar : Name → Bool)
    (hl : ∀ n, (E.G.label n).isSome = isNetVar n) : ∀ (fs : List (List Char)),
    (∀ e, prepAll isNetVar K ext fs = .error e → ∃ e', Api.parseAll E K ext ctxSets fs = .error e') ∧
    (∀ trees, prepAll isNetVar K ext fs = .ok trees → (∀ t ∈ trees, t.numQuantVars ≤ E.G.k) →
      Api.parseAll E K ext ctxSets fs =
        match collectCtx ext ctxSets trees with
        | none => .error .nocontext
        | some (p, d) => .ok (trees, p, d)) := by
  intro fs
  induction fs with
  | nil => exact ⟨nofun, fun trees h _ => by cases h; rfl⟩
  | cons f fs ih =>
    rw [prepAll, parseAll_cons, parseOne_eq_prep, funext hl]
    cases prepOne isNetVar K ext f with
    | error e1 => exact ⟨fun e _ => ⟨e1, rfl⟩, nofun⟩
    | ok t =>
      cases hr : prepAll isNetVar K ext fs with
      | error e2 =>
        refine ⟨fun e _ => ?_, nofun⟩
        obtain ⟨e', he'⟩ := ih.1 e2 hr
        rw [he']
        -- the support check, the look-up or the rest fails: whichever comes first rejects the batch
        split
        · exact ⟨_, rfl⟩
        · split <;> exact ⟨_, rfl⟩
      | ok ts =>
        refine ⟨nofun, fun trees h hk => ?_⟩
        cases h
        have hk1 : ¬ t.numQuantVars > E.G.k := Nat.not_lt.mpr (hk t List.mem_cons_self)
        simp only [if_neg hk1, ih.2 ts hr (fun t' ht' => hk t' (List.mem_cons_of_mem _ ht')), collectCtx_cons]
        cases ctxFor ext ctxSets t with
        | none => rfl
        | some r => cases collectCtx ext ctxSets ts <;> rfl

theorem analyse_of_prep_error (net : Nat → Env) (K : CharClass) (ext : Bool) (ctxSets : List (Name × CSet))
    (text : List Char) {e : UserErr}
    (hp : prepAll (fun n => ((net 0).G.label n).isSome) K ext (Loader.loadFormulae K.isWs text) = .error e) :
    analyse net K ext ctxSets text = .message e := by
  unfold analyse
  simp only [hp]

/-- `analyse` after its first loop; without an archive nothing was collected, and extending by nothing is the identity -/
theorem analyse_of_prep (net : Nat → Env) (K : CharClass) (ext : Bool) (ctxSets : List (Name × CSet)) (text : List Char)
    {trees : List Tree}
    (hp : prepAll (fun n => ((net 0).G.label n).isSome) K ext (Loader.loadFormulae K.isWs text) = .ok trees) :
    analyse net K ext ctxSets text =
      match collectCtx ext ctxSets trees with
      | none => .message .nocontext
      | some (props, doms) =>
        match Api.evalAll (net (kOf trees)) (Ops.steadyOf (net (kOf trees)) (net (kOf trees)).G.unit0)
            (net (kOf trees)).G.unit0 trees
            (({ dups := markDups trees } : ECtx).extendWithWildCards (Api.dedupNames props) (Api.dedupNames doms)) with
        | .error (.panic s) => .panic s
        | .ok rs => .results (kOf trees) trees rs := by
  unfold analyse
  simp only [hp]
  cases ext with
  | true => rfl
  | false => rw [collectCtx_false]; rfl

variable {net : Nat → Env} (hN : NetFamily net) (K : CharClass)
include hN

/-- the graph the tool builds has room for every tree -/
theorem parseAll_net (ext : Bool) (ctxSets : List (Name × CSet)) {fs : List (List Char)} {trees : List Tree}
    (hp : prepAll (fun n => ((net 0).G.label n).isSome) K ext fs = .ok trees) :
    Api.parseAll (net (kOf trees)) K ext ctxSets fs =
      match collectCtx ext ctxSets trees with
      | none => .error .nocontext
      | some (p, d) => .ok (trees, p, d) :=
  (parseAll_of_prep (net (kOf trees)) K ext ctxSets _ (hN.label_eq (kOf trees)) fs).2 trees hp
    (fun t ht => by rw [hN.k_eq]; exact kOf_ge trees t ht)

/-- with a context archive the tool is `model_check_multiple_extended_formulae_dirty` on the graph with `kOf trees` sets -/
theorem analyse_eq_api_ext (ctxSets : List (Name × CSet)) (text : List Char) :
    analyse net K true ctxSets text =
      match prepAll (fun n => ((net 0).G.label n).isSome) K true (Loader.loadFormulae K.isWs text) with
      | .error e => .message e
      | .ok trees =>
        match Api.extendedDirty (net (kOf trees)) K (net (kOf trees)).G.unit0 ctxSets (Loader.loadFormulae K.isWs text) with
        | .ok rs => .results (kOf trees) trees rs
        | .userError e => .message e
        | .panic s => .panic s := by
  cases hp : prepAll (fun n => ((net 0).G.label n).isSome) K true (Loader.loadFormulae K.isWs text) with
  | error e => exact analyse_of_prep_error net K true ctxSets text hp
  | ok trees =>
    simp only [analyse_of_prep net K true ctxSets text hp, Api.extendedDirty, parseAll_net hN K true ctxSets hp]
    cases collectCtx true ctxSets trees with
    | none => rfl
    | some r =>
      dsimp only
      generalize Api.evalAll _ _ _ _ _ = res
      rcases res with ⟨⟨s⟩⟩ | rs <;> rfl

/-- without one it is `model_check_multiple_formulae_dirty` -/
theorem analyse_eq_api_plain (ctxSets : List (Name × CSet)) (text : List Char) :
    analyse net K false ctxSets text =
      match prepAll (fun n => ((net 0).G.label n).isSome) K false (Loader.loadFormulae K.isWs text) with
      | .error e => .message e
      | .ok trees =>
        match Api.formulaeDirty (net (kOf trees)) K (net (kOf trees)).G.unit0 (Loader.loadFormulae K.isWs text) with
        | .ok rs => .results (kOf trees) trees rs
        | .userError e => .message e
        | .panic s => .panic s := by
  cases hp : prepAll (fun n => ((net 0).G.label n).isSome) K false (Loader.loadFormulae K.isWs text) with
  | error e => exact analyse_of_prep_error net K false ctxSets text hp
  | ok trees =>
    simp only [analyse_of_prep net K false ctxSets text hp, Api.formulaeDirty, Api.treesDirty,
      parseAll_net hN K false [] hp, collectCtx_false]
    have e : ({ dups := markDups trees } : ECtx).extendWithWildCards (Api.dedupNames []) (Api.dedupNames []) =
        { dups := markDups trees } := rfl
    rw [e]
    generalize Api.evalAll _ _ _ _ _ = res
    rcases res with ⟨⟨s⟩⟩ | rs <;> rfl

variable {C : CharClass} (hC : Lex.CharsOK C)
  (hE : ∀ k, EnvOK (net k)) (hG : ∀ k, GraphWF (net k).G) (hA : ∀ k, C12.GraphAsync (net k).G)
include hC hE hG hA

/-- C17 on the model, end to end: for every formula file, with or without a context archive of variable-independent
sets, the tool prints a message or archives, in file order, exactly the satisfaction sets of the preprocessed formulae
on the graph with `kOf trees` variable sets; it never panics -/
theorem analyse_correct (ext : Bool) (ctxSets : List (Name × CSet)) (hctx : ∀ e ∈ ctxSets, SetSC e.2) (text : List Char) :
    (∃ e, analyse net C ext ctxSets text = .message e) ∨
    (∃ trees rs ps ds, analyse net C ext ctxSets text = .results (kOf trees) trees rs ∧
      prepAll (fun n => ((net 0).G.label n).isSome) C ext (Loader.loadFormulae C.isWs text) = .ok trees ∧
      collectCtx ext ctxSets trees = some (ps, ds) ∧
      rs.length = trees.length ∧
      ∀ i (hi : i < trees.length) (hi' : i < rs.length), ∀ p ∈ (net (kOf trees)).pts,
        (rs[i] p = true ↔ ((net (kOf trees)).G.unit0 p = true ∧
          sat (net (kOf trees)).G (C04.ctxOf (Api.dedupNames ps) (Api.dedupNames ds)) trees[i] p))) := by
  cases hp : prepAll (fun n => ((net 0).G.label n).isSome) C ext (Loader.loadFormulae C.isWs text) with
  | error e => exact Or.inl ⟨e, analyse_of_prep_error net C ext ctxSets text hp⟩
  | ok trees =>
    rw [analyse_of_prep net C ext ctxSets text hp]
    have hpa := parseAll_net hN C ext ctxSets hp
    cases hc : collectCtx ext ctxSets trees with
    | none => exact Or.inl ⟨.nocontext, rfl⟩
    | some r =>
      obtain ⟨ps, ds⟩ := r
      rw [hc] at hpa
      obtain ⟨rs, hev, hlen, hall⟩ := evalAll_of_parseAll hC (hE _) (hG _) (hA _) ext ctxSets hctx hpa
      exact Or.inr ⟨trees, rs, ps, ds, by simp only [hev], rfl, hc, hlen, hall⟩

end Hctl.C17
