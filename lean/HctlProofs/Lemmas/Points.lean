import HctlProofs.Spec.Denotation
namespace Hctl

theorem mem_vals (G : Graph) (n : Nat) (v : List Nat) :
    v ∈ G.vals n ↔ v.length = n ∧ ∀ x ∈ v, x < G.nS := by
  induction n generalizing v with
  | zero =>
    simp only [Graph.vals, List.mem_singleton]
    constructor
    · rintro rfl; simp
    · rintro ⟨h, _⟩; exact List.eq_nil_of_length_eq_zero h
  | succ n ih =>
    simp only [Graph.vals, List.mem_flatMap, List.mem_range, List.mem_map]
    constructor
    · rintro ⟨t, ht, w, hw, rfl⟩
      obtain ⟨h1, h2⟩ := (ih w).mp hw
      refine ⟨by simp [h1], ?_⟩
      intro x hx
      cases hx with
      | head => exact ht
      | tail _ hx => exact h2 x hx
    · rintro ⟨hl, hx⟩
      cases v with
      | nil => simp at hl
      | cons t w =>
        refine ⟨t, hx t (by simp), w, (ih w).mpr ⟨by simpa using hl, fun x hx' => hx x (by simp [hx'])⟩, rfl⟩

theorem mem_points (G : Graph) (p : Point) :
    p ∈ G.points ↔ p.s < G.nS ∧ p.c < G.nC ∧ p.v.length = G.k ∧ ∀ x ∈ p.v, x < G.nS := by
  simp only [Graph.points, List.mem_flatMap, List.mem_range, List.mem_map]
  constructor
  · rintro ⟨s, hs, c, hc, v, hv, rfl⟩
    obtain ⟨h1, h2⟩ := (mem_vals G G.k v).mp hv
    exact ⟨hs, hc, h1, h2⟩
  · rintro ⟨hs, hc, hl, hx⟩
    exact ⟨p.s, hs, p.c, hc, p.v, (mem_vals G G.k p.v).mpr ⟨hl, hx⟩, rfl⟩

@[simp] theorem setS_s (p : Point) (t : Nat) : (p.setS t).s = t := rfl
@[simp] theorem setS_c (p : Point) (t : Nat) : (p.setS t).c = p.c := rfl
@[simp] theorem setS_v (p : Point) (t : Nat) : (p.setS t).v = p.v := rfl
@[simp] theorem setV_s (p : Point) (i t : Nat) : (p.setV i t).s = p.s := rfl
@[simp] theorem setV_c (p : Point) (i t : Nat) : (p.setV i t).c = p.c := rfl
@[simp] theorem setS_getV (p : Point) (t i : Nat) : (p.setS t).getV i = p.getV i := rfl
@[simp] theorem setS_setS (p : Point) (t u : Nat) : (p.setS t).setS u = p.setS u := rfl
@[simp] theorem setS_self (p : Point) : p.setS p.s = p := rfl

theorem setV_setS (p : Point) (i t u : Nat) : (p.setV i t).setS u = (p.setS u).setV i t := rfl

theorem setV_getV_same (p : Point) (i t : Nat) (hi : i < p.v.length) : (p.setV i t).getV i = t := by
  simp [Point.setV, Point.getV, List.getD, hi]

theorem setV_getV_ne (p : Point) (i j t : Nat) (h : i ≠ j) : (p.setV i t).getV j = p.getV j := by
  simp [Point.setV, Point.getV, List.getD, List.getElem?_set_ne h]

theorem setV_setV_same (p : Point) (i t u : Nat) : (p.setV i t).setV i u = p.setV i u := by
  simp [Point.setV, List.set_set]

theorem setV_self (p : Point) (i : Nat) (hi : i < p.v.length) : p.setV i (p.getV i) = p := by
  cases p with
  | mk s c v =>
    simp only [Point.setV, Point.getV, Point.mk.injEq, true_and]
    apply List.ext_getElem?
    intro j
    by_cases hj : i = j
    · subst hj; simp [List.getD, hi]
    · simp [List.getElem?_set_ne hj]

theorem zeroPt_mem_points (G : Graph) (s c : Nat) (hs : s < G.nS) (hc : c < G.nC) :
    (⟨s, c, List.replicate G.k 0⟩ : Point) ∈ G.points :=
  (mem_points G _).mpr ⟨hs, hc, List.length_replicate,
    fun _ hx => (List.mem_replicate.mp hx).2 ▸ Nat.zero_lt_of_lt hs⟩

theorem envOK_pure (G : Graph) : EnvOK (Env.pure G) := ⟨fun _ _ _ => rfl, rfl⟩

theorem CtxSC.ctxOK {K : SemCtx} (h : CtxSC K) (E : Env) : CtxOK E K :=
  ⟨fun l a hl _ _ _ _ _ => h.dom l a hl _ _ rfl rfl⟩

theorem ctxSC_noCtx : CtxSC noCtx := ⟨fun _ _ h => (nomatch h), fun _ _ h => (nomatch h)⟩

theorem ctxOK_noCtx (E : Env) : CtxOK E noCtx := ctxSC_noCtx.ctxOK E

namespace EnvOK
variable {E : Env} (hE : EnvOK E)
include hE

theorem mem_pts {p : Point} :
    p ∈ E.pts ↔ p.s < E.G.nS ∧ p.c < E.G.nC ∧ p.v.length = E.G.k ∧ ∀ x ∈ p.v, x < E.G.nS := by
  rw [hE.pts_eq]; exact mem_points E.G p

theorem len_v {p : Point} (hp : p ∈ E.pts) : p.v.length = E.G.k := (hE.mem_pts.mp hp).2.2.1

theorem s_lt {p : Point} (hp : p ∈ E.pts) : p.s < E.G.nS := (hE.mem_pts.mp hp).1

theorem getV_lt {p : Point} (i : Nat) (hp : p ∈ E.pts) : p.getV i < E.G.nS := by
  rw [hE.mem_pts] at hp
  simp only [Point.getV, List.getD]
  cases h : p.v[i]? with
  | none => simp; omega
  | some x =>
    exact hp.2.2.2 x (List.mem_of_getElem? h)

theorem setS_mem {p : Point} (hp : p ∈ E.pts) {t : Nat} (ht : t < E.G.nS) : p.setS t ∈ E.pts := by
  rw [hE.mem_pts] at hp ⊢
  exact ⟨ht, hp.2.1, hp.2.2.1, hp.2.2.2⟩

theorem setV_mem {p : Point} (hp : p ∈ E.pts) {i t : Nat} (ht : t < E.G.nS) : p.setV i t ∈ E.pts := by
  rw [hE.mem_pts] at hp ⊢
  refine ⟨hp.1, hp.2.1, by simp [Point.setV, hp.2.2.1], ?_⟩
  intro x hx
  cases List.mem_or_eq_of_mem_set hx with
  | inl h => exact hp.2.2.2 x h
  | inr h => rw [h]; exact ht

end EnvOK

theorem any_range_iff {n : Nat} {f : Nat → Bool} : (List.range n).any f = true ↔ ∃ t, t < n ∧ f t = true := by
  simp [List.any_eq_true, List.mem_range]

end Hctl
