/-
  The two facts about canonical keys that `evalNode_sound` takes as hypotheses (`KeySem`, `KeyWild`), derived from the
  canoniser model: equal keys ⇒ equal canonical trees ⇒ (at most one variable) the second formula is the first with its
  variable renamed, and its satisfaction set is the first one's read at the other slot, which `renameBack` computes.
-/
import HctlProofs.Lemmas.CacheDefs
import HctlProofs.Lemmas.CacheBasics
import HctlProofs.Lemmas.NodeSem
import HctlProofs.Lemmas.CanonConverse
import HctlProofs.Props.C06
import HctlProofs.Lemmas.CanonRender
namespace Hctl
open Lex C09

theorem repr_digits (n : Nat) : ∀ c ∈ (Nat.repr n).toList, c.isDigit = true := by
  intro c hc
  have : (Nat.repr n).toList = Nat.toDigits 10 n := by simp [Nat.repr]
  rw [this] at hc
  exact Nat.isDigit_of_mem_toDigits (by decide) (by decide) hc

theorem canonName_valid {K : CharClass} (hK : CharsOK K) (n : Nat) : ValidId K (canonName n) := by
  refine ⟨List.append_ne_nil_of_left_ne_nil (by decide) _, fun c hc => ?_⟩
  rcases List.mem_append.mp hc with h | h
  · clear hc
    exact letter_name hK (by revert c; decide)
  · simp [isName, hK.digits c (repr_digits n c h)]

theorem canonVar_valid {K : CharClass} (hK : CharsOK K) (v : Name) (st : CanonT) (hst : CanonInv st) :
    ValidId K (canonVar v st).1 := by
  unfold canonVar
  cases h : st.map.lookup v with
  | some cn =>
    obtain ⟨j, _, rfl⟩ := hst.bound v cn (mem_of_lookup h)
    exact canonName_valid hK j
  | none => exact canonName_valid hK _

theorem hybVar_valid {K : CharClass} (hK : CharsOK K) (o : HybOp) (v : Name) (st : CanonT) (hst : CanonInv st) :
    ValidId K (hybVar o v st).1 := by
  unfold hybVar
  split
  · exact canonVar_valid hK v st hst
  · exact canonName_valid hK _

theorem canonTreeAux_treeOK {K : CharClass} (hK : CharsOK K) : ∀ (t : Tree) (st : CanonT), CanonInv st →
    TreeOK K t ∧ PropNamesOK t → TreeOK K (canonTreeAux t st).1 ∧ PropNamesOK (canonTreeAux t st).1 := by
  intro t
  induction t with
  | atom a =>
    intro st hst h
    cases a with
    | var v => exact ⟨canonVar_valid hK v st hst, trivial⟩
    | _ => exact h
  | un o c ih => exact ih
  | bin o l r ihl ihr =>
    intro st hst h
    have a := ihl st hst ⟨h.1.1, h.2.1⟩
    have b := ihr _ (canonTreeAux_inv l st hst) ⟨h.1.2, h.2.2⟩
    simp only [canonTreeAux_bin, TreeOK, PropNamesOK]
    exact ⟨⟨a.1, b.1⟩, a.2, b.2⟩
  | hyb o v d c ih =>
    intro st hst h
    have a := ih _ (hybVar_inv hst o v) ⟨h.1.2.2, h.2⟩
    simp only [canonTreeAux_hyb, TreeOK, PropNamesOK]
    exact ⟨⟨hybVar_valid hK o v st hst, h.1.2.1, a.1⟩, a.2⟩

section syntactic
variable {C : CharClass} (hC : CharsOK C)
include hC

theorem keyOf_eq (t : Tree) (ht : TreeOK C t) (doms : DomMap) :
    keyOf t doms = (((canonTree t).1.render, canonDoms (canonTree t).2 doms), (canonTree t).2) := by
  simp [keyOf, canonChars_render hC t ht]

theorem canonTree_valid (t : Tree) (ht : TreeOK C t ∧ PropNamesOK t) :
    TreeOK C (canonTree t).1 ∧ PropNamesOK (canonTree t).1 := by
  have := canonTreeAux_treeOK hC t {} CanonInv.init ht
  simpa [canonTree] using this

theorem canon_eq_of_key_eq (t1 t2 : Tree) (h1 : TreeOK C t1 ∧ PropNamesOK t1) (h2 : TreeOK C t2 ∧ PropNamesOK t2)
    (d1 d2 : DomMap) (key : Key) (ren1 ren2 : List (Name × Name))
    (hk1 : keyOf t1 d1 = (key, ren1)) (hk2 : keyOf t2 d2 = (key, ren2)) :
    (canonTree t1).1 = (canonTree t2).1 ∧ ren1 = (canonTree t1).2 ∧ ren2 = (canonTree t2).2 ∧
      canonDoms ren1 d1 = canonDoms ren2 d2 := by
  rw [keyOf_eq hC t1 h1.1] at hk1
  rw [keyOf_eq hC t2 h2.1] at hk2
  simp only [Prod.mk.injEq] at hk1 hk2
  obtain ⟨hkey1, hr1⟩ := hk1
  obtain ⟨hkey2, hr2⟩ := hk2
  subst hr1 hr2
  rw [← hkey2] at hkey1
  simp only [Prod.mk.injEq] at hkey1
  have v1 := canonTree_valid hC t1 h1
  have v2 := canonTree_valid hC t2 h2
  exact ⟨C06.render_injective C hC _ _ v1.1 v2.1 v1.2 v2.2 hkey1.1, rfl, rfl, hkey1.2⟩

end syntactic

/-- "at most one variable" is a property of the key: if one depth-named tree with at most one variable has it, every
legitimate sub-formula with that key has at most one variable -/
theorem dups_le_one {C : CharClass} (hC : Lex.CharsOK C) {E : Env} {K : SemCtx} {U0 : CSet} {key : Key}
    (hw : KeyWitness C E key)
    {t : Tree} {U : CSet} {ds : List (Option Name)} {ren : List (Name × Name)} (hq : GoodQ C E K U0 t U ds)
    (hkey : keyOf t (fvdOf ds) = (key, ren)) : ren.length ≤ 1 := by
  obtain ⟨t0, d0, doms0, ren0, hk0, hlen0, hd0, hw0, hv0, hp0⟩ := hw
  obtain ⟨hT, hr0, hr, _⟩ := canon_eq_of_key_eq hC t0 t ⟨hv0, hp0⟩ hq.valid _ _ key ren0 ren hk0 hkey
  obtain ⟨f, _, hren⟩ := renaming_of_canon_eq t0 t d0 ds.length hT hd0 hq.named
  rw [hr, hren, mapKeys, List.length_map, ← hr0]
  exact hlen0

/-- C09 at the character level: canonising a canonical text changes nothing -/
theorem canonChars_idempotent {C : CharClass} (hC : Lex.CharsOK C) (t : Tree) (ht : Lex.TreeOK C t ∧ PropNamesOK t) :
    (canonChars (canonChars t.render).1).1 = (canonChars t.render).1 := by
  rw [canonChars_render hC t ht.1, canonChars_render hC _ (canonTree_valid hC t ht).1, canonTree_idempotent]

theorem canonDoms_nil (doms : DomMap) : canonDoms [] doms = [] := by
  unfold canonDoms
  induction doms with
  | nil => rfl
  | cons e doms ih => simpa [List.foldl_cons, List.lookup] using ih

theorem wild_of_render {C : CharClass} (hC : CharsOK C) (T : Tree) (hT : TreeOK C T) (w : Name)
    (h : T.render = '%' :: w ++ ['%']) : T = .atom (.wild w) := by
  cases T with
  | atom a =>
    cases a with
    | wild w' =>
      simp only [Tree.render, Atom.str, List.cons_append, List.cons.injEq, true_and] at h
      have := List.append_cancel_right h
      rw [this]
    | prop n =>
      simp only [Tree.render, Atom.str] at h
      have hv : ValidName C n := hT
      rw [h] at hv
      have := hv.1.2 '%' (by simp)
      rw [hC.special_not_name _ (by simp [specials])] at this
      cases this
    | tt | ff | var _ => simp [Tree.render, Atom.str] at h
  | un o c =>
    rw [CanonProof.render_un] at h
    exact absurd (List.cons.inj h).1 (by decide)
  | bin _ _ _ | hyb _ _ _ _ =>
    exact absurd (List.cons.inj h).1 (by decide)

theorem mapVars_eq_wild (t : Tree) (w : Name) (f : Name → Name) (h : t.mapVars f = .atom (.wild w)) :
    t = .atom (.wild w) := by
  cases t with
  | atom a => cases a <;> simp_all [Tree.mapVars]
  | _ => cases h

/-- `KeyWild`: `%w%` is canonised to itself, and only a wild-card proposition renders with a `%` in front -/
theorem keyWild_holds {C : CharClass} (hC : CharsOK C) (E : Env) (K : SemCtx) (U0 : CSet) : KeyWild C E K U0 := by
  constructor
  · intro w ds hw
    rw [keyOf_eq hC _ (by simpa [TreeOK] using hw)]
    -- no variable: `%w%` is its own canonical form, with the empty renaming
    show ((_, canonDoms [] _), _) = _
    rw [canonDoms_nil]
    rfl
  · intro t U ds w ren hq hk
    rw [keyOf_eq hC t hq.valid.1] at hk
    simp only [Prod.mk.injEq, wkey] at hk
    have hT := canonTree_valid hC t hq.valid
    have := wild_of_render hC _ hT.1 w hk.1.1
    have hs := canonTreeAux_shape [] t {}
    simp only [canonTree] at this
    rw [this] at hs
    exact mapVars_eq_wild t w _ hs.symm

/-- the fold keeps the last entry for the variable (`BTreeMap::insert` overwrites) -/
theorem canonDoms_single (v c : Name) (doms : DomMap) :
    canonDoms [(v, c)] doms = (match doms.reverse.lookup v with | some o => [(c, o)] | none => []) := by
  rw [canonDoms, ← List.foldr_reverse]
  induction doms.reverse with
  | nil => rfl
  | cons e l ih =>
    obtain ⟨x, o⟩ := e
    rw [List.foldr_cons, ih]
    simp only [lookup_cons_eq, List.lookup_nil]
    by_cases hx : x = v
    · subst hx
      cases l.lookup x <;> simp [domInsert]
    · have : v ≠ x := fun h => hx h.symm
      simp only [if_neg hx, if_neg this]

theorem sortRen_single (v c : Name) : sortRen [(v, c)] = [(v, c)] := by
  simp [sortRen, sortRen.ins]

theorem renameBack_single (E : Env) (U R : CSet) (v1 v2 c : Name) (h1 : varId v1 < E.G.k) (h2 : varId v2 < E.G.k) :
    Eval.renameBack E U [(v2, c)] [(v1, c)] R =
      .ok (if v1 = v2 then R else E.tab (Ops.substituteVar E U R (varId v1) (varId v2))) := by
  have : ¬ (varId v1 ≥ E.G.k ∨ varId v2 ≥ E.G.k) := by omega
  by_cases h : v1 = v2 <;> simp [Eval.renameBack, h, this]

section sem
variable {C : CharClass} (hC : CharsOK C) {E : Env} (hE : EnvOK E) (hG : GraphWF E.G)
include hE hG

omit hG in
/-- the semantic step of a cache hit with renaming -/
theorem sem_substituteVar {K : SemCtx} (hSC : CtxSC K) {t : Tree} {i j : Nat} (hij : i ≠ j) (hik : i < E.G.k) (hjk : j < E.G.k)
    (hall : OnlyVar (xs (i + 1)) t) {U1 U2 R : CSet} (hs : Sem E R U1 (sat E.G K t))
    (hU : ∀ p ∈ E.pts, U2 p = true → U1 (p.setV i (p.getV j)) = true) :
    Sem E ((E.tab (Ops.substituteVar E U2 R i j)).inter U2) U2 (sat E.G K (t.mapVars (fun _ => xs (j + 1)))) := by
  intro p hp
  simp only [CSet.inter, Bool.and_eq_true]
  rw [hE.tab_ok _ p hp, mem_substituteVar hE hij hik hp]
  have hjn : p.getV j < E.G.nS := hE.getV_lt j hp
  have hlen : i < p.v.length := by rw [hE.len_v hp]; exact hik
  have hlen' : j < p.v.length := by rw [hE.len_v hp]; exact hjk
  rw [hs _ (hE.setV_mem hp hjn)]
  have hsat : sat E.G K t (p.setV i (p.getV j)) ↔ sat E.G K (t.mapVars (fun _ => xs (j + 1))) p :=
    sat_renameVar E.G K hSC (xs (i + 1)) (xs (j + 1)) t p.s p.c (p.v.set i (p.getV j)) p.v hall
      (by rw [varId_xs]; simpa using hlen) (by rw [varId_xs]; exact hlen')
      (by rw [varId_xs, varId_xs]; exact setV_getV_same p i _ hlen)
  constructor
  · rintro ⟨⟨⟨_, h⟩, _⟩, h2⟩
    exact ⟨h2, hsat.mp h⟩
  · rintro ⟨h2, h⟩
    exact ⟨⟨⟨hU p hp h2, hsat.mpr h⟩, h2⟩, h2⟩

include hC in
/-- `KeySem`, the content of C09 the cache relies on. `hU0`: the top-level unit does not constrain the variable slots
(renaming reads the unit at another slot). -/
theorem keySem_holds {K : SemCtx} (hK : CtxOK E K) (hSC : CtxSC K) {U0 : CSet}
    (hU0 : ∀ p ∈ E.pts, ∀ i t, t < E.G.nS → U0 (p.setV i t) = U0 p) : KeySem C E K U0 := by
  intro t1 U1 ds1 t2 U2 ds2 key ren1 ren2 R hq1 hq2 hk1 hk2 hlen1 hlen2 hnf hnw hs
  obtain ⟨hT, hr1, hr2, hcd⟩ := canon_eq_of_key_eq hC t1 t2 hq1.valid hq2.valid _ _ key ren1 ren2 hk1 hk2
  obtain ⟨f, ht2, hren⟩ := renaming_of_canon_eq t1 t2 _ _ hT hq1.named hq2.named
  rw [← hr1, ← hr2] at hren
  subst hren
  simp only [canonTree] at hr1
  have hnames1 : ∀ x ∈ varNames t1, ∃ c, (x, c) ∈ ren1 := by rw [hr1]; exact fun x hx => renaming_total t1 {} x hx
  have hsub2 : ∀ p ∈ E.pts, U2 p = true → U0 p = true := fun p hp h => ((hq2.desc p hp).mp h).1
  have same : t2 = t1 → (∀ p ∈ E.pts, U2 p = true → U1 p = true) → Sem E (R.inter U2) U2 (sat E.G K t2) :=
    fun ht hU => ht ▸ hs.restrict hU
  cases ren1 with
  | nil =>
    have hv1 : ∀ x, x ∉ varNames t1 := fun x hx => by obtain ⟨c, hc⟩ := hnames1 x hx; simp at hc
    refine ⟨R, by simp [sortRen, Eval.renameBack], same (ht2.trans (mapVars_id_on _ t1 (fun x hx => absurd hx (hv1 x)))) ?_⟩
    intro p hp h2
    rw [hq1.desc p hp]
    refine ⟨hsub2 p hp h2, fun i l a hil _ => ?_⟩
    have := hnf i l hil
    simp at this
  | cons e1 tl1 =>
    obtain ⟨v1, c1⟩ := e1
    have htl1 : tl1 = [] := by
      cases tl1 with
      | nil => rfl
      | cons _ _ => simp at hlen1
    subst htl1
    have hall1 : OnlyVar v1 t1 := by
      intro x hx
      obtain ⟨c, hc⟩ := hnames1 x hx
      simp at hc
      exact hc.1
    have hv1mem : v1 ∈ varNames t1 := by
      have hm : (v1, c1) ∈ (canonTreeAux t1 {}).2.map := by rw [← hr1]; simp
      rcases canonTreeAux_keys t1 {} v1 c1 hm with ⟨c', hc'⟩ | h
      · simp at hc'
      · exact h
    obtain ⟨v2, hv2⟩ : ∃ v2, v2 = f v1 := ⟨_, rfl⟩
    have hm2 : mapKeys f [(v1, c1)] = [(v2, c1)] := by rw [hv2]; rfl
    rw [hm2] at hcd ⊢
    replace ht2 : t2 = t1.mapVars (fun _ => v2) :=
      ht2.trans (mapVars_congr _ _ t1 (fun x hx => by rw [hall1 x hx, hv2]))
    obtain ⟨i, hi⟩ := depthNamed_names t1 _ hq1.named v1 hv1mem
    have hv2mem : v2 ∈ varNames t2 := by
      rw [ht2, varNames_mapVars]
      exact List.mem_map.mpr ⟨v1, hv1mem, rfl⟩
    obtain ⟨j, hj⟩ := depthNamed_names t2 _ hq2.named v2 hv2mem
    have hik : varId v1 < E.G.k := wellScoped_varId t1 _ _ hq1.wscoped hq1.dk v1 hv1mem
    have hjk : varId v2 < E.G.k := wellScoped_varId t2 _ _ hq2.wscoped hq2.dk v2 hv2mem
    subst hi hj
    rw [sortRen_single, renameBack_single E U2 R _ _ c1 hik hjk]
    rw [varId_xs] at hik hjk
    -- the domains of the two variables carry the same label
    rw [canonDoms_single, canonDoms_single, lookup_reverse_fvdOf, lookup_reverse_fvdOf] at hcd
    have hdom : ∀ l, ds1[i]? = some (some l) → ds2[j]? = some (some l) := by
      intro l hl
      rw [hl] at hcd
      cases h2 : ds2[j]? with
      | none => rw [h2] at hcd; simp at hcd
      | some o => rw [h2] at hcd; simp at hcd; rw [← hcd]
    -- `NoForeign`: a restricted quantifier open above the first occurrence is the one of its variable
    have hforeign : ∀ i' l, ds1[i']? = some (some l) → i' = i := by
      intro i' l hl
      have := hnf i' l hl
      by_cases hx : xs (i' + 1) = xs (i + 1)
      · have := xs_inj hx; omega
      · have hb : (xs (i' + 1) == xs (i + 1)) = false := beq_eq_false_iff_ne.mpr hx
        simp [hb] at this
    -- the second unit lies in the first read at slot `i` := slot `j`
    have hU : ∀ p ∈ E.pts, U2 p = true → U1 (p.setV i (p.getV j)) = true := by
      intro p hp h2
      have hjn : p.getV j < E.G.nS := hE.getV_lt j hp
      have hlen : i < p.v.length := by rw [hE.len_v hp]; exact hik
      rw [hq1.desc _ (hE.setV_mem hp hjn)]
      refine ⟨by rw [hU0 p hp i _ hjn]; exact hsub2 p hp h2, fun i' l a hil ha => ?_⟩
      have := hforeign i' l hil
      subst this
      rw [setV_getV_same p i' _ hlen, setV_setS, hK.domIndep l a ha _ (hE.setS_mem hp hjn) i' _ hjn]
      exact ((hq2.desc p hp).mp h2).2 j l a (hdom l hil) ha
    by_cases hvv : xs (i + 1) = xs (j + 1)
    · -- same name: no renaming
      have hij : i = j := by have := xs_inj hvv; omega
      subst hij
      have ht : t2 = t1 := by rw [ht2]; exact mapVars_id_on _ t1 (fun x hx => (hall1 x hx).symm)
      refine ⟨R, by rw [if_pos rfl], same ht fun p hp h2 => ?_⟩
      have := hU p hp h2
      rwa [setV_self p i (by rw [hE.len_v hp]; exact hik)] at this
    · have hij : i ≠ j := fun h => hvv (by rw [h])
      refine ⟨E.tab (Ops.substituteVar E U2 R i j), by rw [if_neg hvv, varId_xs, varId_xs], ?_⟩
      rw [ht2]
      exact sem_substituteVar hE hSC hij hik hjk hall1 hs hU

end sem
end Hctl
