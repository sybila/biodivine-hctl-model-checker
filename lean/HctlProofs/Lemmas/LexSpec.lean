/-
  The tokenizer meets its lexical specification (`Sp`, `Seg` of `Spec/Lexical.lean`) in both directions.  `Tk` is the
  specification of a single token; `lexTok` reads exactly what `Tk` spells, and `Sp.induct` / `lexRec_induct` lift
  that to texts.  White-space invariance is read off the rules.
-/
import HctlProofs.Lemmas.LexChars
namespace Hctl
namespace Lex

variable {K : CharClass}

variable (hK : CharsOK K)
include hK

/-- The rules of `Sp` for single tokens, without the rest of the text: `pre` spells the token `t`, and `sep` says that
the text behind it must not go on with a name character. -/
inductive Tk (K : CharClass) (ext : Bool) : List Char → Tok → Bool → Prop
  | not : Tk K ext ['~'] (.un .not) false
  | binsym (o : BinOp) : (o = .and ∨ o = .or ∨ o = .xor ∨ o = .imp ∨ o = .iff) → Tk K ext o.str (.bin o) false
  | temp (a b : Char) (t : Tok) : tempUn a b = some t → Tk K ext [a, b] t true
  | hybShort (o : HybOp) (seg : List Char) (v : Name) (d : Option Name) :
      Seg K (if o = .jump then false else ext) seg v d → Tk K ext (o.str ++ seg) (.hyb o v d) false
  | hybLong (o : HybOp) (nm seg : List Char) (v : Name) (d : Option Name) : hybOfLong nm = some o →
      Seg K (if o = .jump then false else ext) seg v d → Tk K ext ('\\' :: (nm ++ seg)) (.hyb o v d) false
  | var (v : Name) : ValidId K v → Tk K ext ('{' :: (v ++ ['}'])) (.atom (.var v)) false
  | wild (v : Name) : ext = true → ValidId K v → Tk K ext ('%' :: (v ++ ['%'])) (.atom (.wild v)) false
  | name (n : Name) : ValidName K n → Tk K ext n (.atom (.prop n)) true

omit hK in
theorem Sp.tok {ext : Bool} {pre cs : List Char} {t : Tok} {sep : Bool} {ts : List Tok} (h : Tk K ext pre t sep)
    (hs : sep = true → Sep K cs) (hsp : Sp K ext cs ts) : Sp K ext (pre ++ cs) (t :: ts) := by
  cases h with
  | not => exact Sp.not cs ts hsp
  | binsym o ho => exact Sp.binsym o cs ts ho hsp
  | temp a b t ht => exact Sp.temp a b t cs ts ht (hs rfl) hsp
  | hybShort o seg v d hseg => rw [List.append_assoc]; exact Sp.hybShort o seg v d cs ts hseg hsp
  | hybLong o nm seg v d ho hseg => simpa using Sp.hybLong o nm seg v d cs ts ho hseg hsp
  | var v hv => simpa using Sp.var v cs ts hv hsp
  | wild v he hv => simpa using Sp.wild v cs ts he hv hsp
  | name _ hv => exact Sp.name _ cs ts hv (hs rfl) hsp

omit hK in
theorem Sp.induct {ext : Bool} {motive : List Char → List Tok → Prop} (nil : motive [] [])
    (ws : ∀ c cs ts, K.isWs c = true → Sp K ext cs ts → motive cs ts → motive (c :: cs) ts)
    (group : ∀ inner tsi cs ts, Sp K ext inner tsi → motive inner tsi → Sp K ext cs ts → motive cs ts →
      motive ('(' :: (inner ++ ')' :: cs)) (.group tsi :: ts))
    (tok : ∀ pre t sep cs ts, Tk K ext pre t sep → (sep = true → Sep K cs) → Sp K ext cs ts → motive cs ts →
      motive (pre ++ cs) (t :: ts)) :
    ∀ {text : List Char} {toks : List Tok}, Sp K ext text toks → motive text toks := by
  intro text toks h
  induction h with
  | nil => exact nil
  | ws c cs ts hc h ih => exact ws c cs ts hc h ih
  | group inner tsi cs ts hi h ihi ih => exact group inner tsi cs ts hi ihi h ih
  | not cs ts h ih => exact tok _ _ _ cs ts .not (fun h => by cases h) h ih
  | binsym o cs ts ho h ih => exact tok _ _ _ cs ts (.binsym o ho) (fun h => by cases h) h ih
  | temp a b t cs ts ht hsep h ih => exact tok _ _ _ cs ts (.temp a b t ht) (fun _ => hsep) h ih
  | hybShort o seg v d cs ts hseg h ih =>
    rw [← List.append_assoc]; exact tok _ _ _ cs ts (.hybShort o seg v d hseg) (fun h => by cases h) h ih
  | hybLong o nm seg v d cs ts ho hseg h ih =>
    simpa using tok _ _ _ cs ts (.hybLong o nm seg v d ho hseg) (fun h => by cases h) h ih
  | var v cs ts hv h ih => simpa using tok _ _ _ cs ts (.var v hv) (fun h => by cases h) h ih
  | wild v cs ts he hv h ih => simpa using tok _ _ _ cs ts (.wild v he hv) (fun h => by cases h) h ih
  | name n cs ts hv hsep h ih => exact tok _ _ _ cs ts (.name n hv) (fun _ => hsep) h ih

theorem lexTok_complete {ext : Bool} {pre : List Char} {t : Tok} {sep : Bool} (h : Tk K ext pre t sep) (rest : List Char)
    (hs : sep = true → Sep K rest) : lexTok K ext (pre ++ rest) = some (t, rest) := by
  have hyb : ∀ {o seg v d}, Seg K (if o = .jump then false else ext) seg v d →
      hybTok K ext o (seg ++ rest) = some (.hyb o v d, rest) := fun hseg => by
    unfold hybTok; rw [collectVarDom_complete hK hseg rest]
  -- `simp [lexTok, …]` goes down the chain to the first character's alternative; the facts passed stop the earlier ones
  cases h with
  | not => simp [lexTok, not_ws hK '~']
  | binsym o ho =>
    have h1 := not_ws hK '&'
    have h2 := not_ws hK '|'
    have h3 := not_ws hK '^'
    have h4 := not_ws hK '='
    have h5 := not_ws hK '<'
    rcases ho with rfl | rfl | rfl | rfl | rfl <;> simp [BinOp.str_eq, lexTok, h1, h2, h3, h4, h5]
  | temp a b t ht =>
    have hE : K.isWs 'E' = false := letter_not_ws hK
    have hA : K.isWs 'A' = false := letter_not_ws hK
    have hn : nextIsName K rest = false := (nextIsName_false_iff rest).mpr (hs rfl)
    obtain ⟨ha, hb⟩ := tempUn_some ht
    rcases ha with rfl | rfl <;> simp [lexTok, hE, hA, hb, hn, ht]
  | hybShort o seg v d hseg =>
    have h3 : K.isWs '3' = false := letter_not_ws hK
    have hV : K.isWs 'V' = false := letter_not_ws hK
    have hn : nextIsName K (seg ++ rest) = false := (nextIsName_false_iff _).mpr (seg_sep hK hseg rest)
    have h1 := not_ws hK '!'
    have h2 := not_ws hK '@'
    have hc := hyb hseg
    cases o <;> simp [HybOp.str_eq, lexTok, h1, h2, h3, hV, isTempOp, hn, hc]
  | hybLong o nm seg v d ho hseg =>
    have hnm : ∀ c ∈ nm, isName K c = true := by
      rw [hybOfLong_eq_some.mp ho]
      intro c hc
      refine letter_name hK ?_
      revert c
      cases o <;> decide
    have hcn := collectName_app nm (seg ++ rest) hnm (seg_sep hK hseg rest)
    simp [lexTok, not_ws hK '\\', isTempOp, hcn, ho, hyb hseg]
  | var v hv =>
    have h2 := collectName_app v ('}' :: rest) hv.2 (sep_special hK rest)
    simp [lexTok, delimTok, not_ws hK '{', isTempOp, h2, hv.isEmpty, expect]
  | wild v he hv =>
    have h2 := collectName_app v ('%' :: rest) hv.2 (sep_special hK rest)
    simp [lexTok, delimTok, not_ws hK '%', isTempOp, h2, hv.isEmpty, expect, he]
  | name _ hv => exact lexTok_name hK ext _ hv rest (hs rfl)

/-- Completeness: a run on the rest of the text with fuel `n` is prolonged to the front by a spelling, one unit of
fuel per character being enough. -/
theorem lex_complete_rec (ext : Bool) : ∀ (text : List Char) (toks : List Tok), Sp K ext text toks →
    ∀ (n N : Nat) (top : Bool) (rest rem : List Char) (ts : List Tok), Sep K rest →
      lexRec K ext n top rest = .ok (ts, rem) → n + text.length ≤ N →
      lexRec K ext N top (text ++ rest) = .ok (toks ++ ts, rem) := by
  intro text toks h
  refine Sp.induct (motive := fun text toks => ∀ (n N : Nat) (top : Bool) (rest rem : List Char) (ts : List Tok),
    Sep K rest → lexRec K ext n top rest = .ok (ts, rem) → n + text.length ≤ N →
    lexRec K ext N top (text ++ rest) = .ok (toks ++ ts, rem)) ?_ ?_ ?_ ?_ h
  · intro n N top rest rem ts _ h hN
    exact lexRec_mono_le ext (Nat.le_of_add_right_le hN) h
  · intro c cs ts' hc _ ih n N top rest rem ts hs h hN
    obtain ⟨M, rfl⟩ : ∃ M, N = M + 1 := ⟨N - 1, by simp at hN; omega⟩
    rw [List.cons_append, lexRec_ws ext c hc]
    exact ih n M top rest rem ts hs h (by simp at hN; omega)
  · intro inner tsi cs ts' _ ihi _ ihc n N top rest rem ts hs h hN
    obtain ⟨M, rfl⟩ : ∃ M, N = M + 1 := ⟨N - 1, by simp at hN; omega⟩
    have hM : n + (inner.length + cs.length + 1) ≤ M := by simp at hN; omega
    -- with fuel `M`: the text behind `)`, and before it the inner text, which ends at `)`
    have e2 := ihc n M top rest rem ts hs h (by omega)
    have e0 : lexRec K ext 1 false (')' :: (cs ++ rest)) = .ok ([], cs ++ rest) :=
      lexRec_close ext (not_ws hK _) 0 false _
    have e1 := ihi 1 M false (')' :: (cs ++ rest)) (cs ++ rest) [] (sep_special hK _) e0 (by omega)
    rw [List.append_nil] at e1
    have : '(' :: (inner ++ ')' :: cs) ++ rest = '(' :: (inner ++ ')' :: (cs ++ rest)) := by simp
    rw [this, lexRec_open ext (not_ws hK _) M top _ tsi _ e1, e2]
    rfl
  · intro pre t sep cs ts' htk hsep _ ih n N top rest rem ts hs h hN
    have hl : pre ≠ [] := by
      intro hp
      have := lexTok_complete hK htk [] (fun _ => sep_nil)
      rw [hp] at this
      cases this
    have hl : 1 ≤ pre.length := List.length_pos_iff.mpr hl
    rw [List.length_append] at hN
    obtain ⟨M, rfl⟩ : ∃ M, N = M + 1 := ⟨N - 1, by omega⟩
    rw [List.append_assoc, lexRec_tok ext (lexTok_complete hK htk _ (fun h => sep_append (hsep h) hs)),
      ih n M top rest rem ts hs h (by omega)]
    rfl

/-- C05, one half of `C05.lexer_meets_spec` (the other is `lex_sound_rec`). -/
theorem lex_complete (ext : Bool) (cs : List Char) (toks : List Tok) (h : Sp K ext cs toks) :
    tokenize K ext cs = .ok toks := by
  have h0 : lexRec K ext 1 true [] = .ok ([], []) := rfl
  have := lex_complete_rec hK ext cs toks h 1 (cs.length + 1) true [] [] [] sep_nil h0 (by omega)
  simp only [List.append_nil] at this
  simp [tokenize, this]

/-- what follows the text of a group -/
def tailOf (top : Bool) (rest : List Char) : List Char := if top then [] else ')' :: rest

omit hK in
theorem validName_of_three {n : Name} (hl : 3 ≤ n.length) (h : ∀ x ∈ n, isName K x = true) : ValidName K n := by
  refine ⟨⟨?_, h⟩, ?_, ?_, ?_⟩
  · rintro rfl; simp at hl
  · rintro rfl; simp at hl
  · rintro rfl; simp at hl
  · rintro a b rfl; simp at hl

theorem validName_long {c c2 : Char} {cs : List Char}
    (hEA : ((decide (c = 'E') || decide (c = 'A')) && isTempOp (c2 :: cs).head?) = true) (hn : nextIsName K cs = true) :
    ValidName K ([c, c2] ++ (collectName K cs).fst) := by
  simp only [Bool.and_eq_true, Bool.or_eq_true, decide_eq_true_eq, List.head?_cons, isTempOp, beq_iff_eq] at hEA
  have hc : isName K c = true := by
    rcases hEA.1 with rfl | rfl <;> exact letter_name hK (by decide)
  have hc2 : isName K c2 = true := by
    rcases hEA.2 with (((rfl | rfl) | rfl) | rfl) | rfl <;> exact letter_name hK (by decide)
  have hl := List.length_pos_iff.mpr (collectName_fst_ne_nil cs hn)
  exact validName_of_three (by simp; omega)
    (List.forall_mem_cons.mpr ⟨hc, List.forall_mem_cons.mpr ⟨hc2, (collectName_split K cs).2.1⟩⟩)

omit hK in
theorem validName_short {c : Char} {cs : List Char}
    (hEA : ¬ ((decide (c = 'E') || decide (c = 'A')) && isTempOp cs.head?) = true)
    (h3 : ¬ (decide (c = '3') && !nextIsName K cs) = true) (hV : ¬ (decide (c = 'V') && !nextIsName K cs) = true)
    (hc : isName K c = true) : ValidName K ([c] ++ (collectName K cs).fst) := by
  refine ⟨⟨by simp, List.forall_mem_cons.mpr ⟨hc, (collectName_split K cs).2.1⟩⟩,
    mt (lone_iff c '3' cs).mpr h3, mt (lone_iff c 'V' cs).mpr hV, fun a b hab => ?_⟩
  · simp only [List.cons_append, List.nil_append, List.cons.injEq] at hab
    obtain ⟨rfl, hfst⟩ := hab
    -- if `a b` spelled an operator, the alternative for the two-letter operators was taken
    cases hcs : cs with
    | nil => simp [hcs, collectName] at hfst
    | cons c2 tl =>
      rw [hcs] at hfst hEA
      have hc2 : isName K c2 = true := by
        cases hn : isName K c2 with
        | true => rfl
        | false => simp [collectName, hn] at hfst
      simp only [collectName, hc2, if_true, List.cons.injEq] at hfst
      obtain ⟨rfl, _⟩ := hfst
      cases ht : tempUn c c2 with
      | none => rfl
      | some t =>
        obtain ⟨ha, hb⟩ := tempUn_some ht
        exfalso
        apply hEA
        rcases ha with rfl | rfl <;> simpa using hb

omit hK in
theorem hybTok_sound {ext : Bool} {o : HybOp} {cs : List Char} {t : Tok} {rest : List Char}
    (h : hybTok K ext o cs = some (t, rest)) :
    ∃ seg v d, cs = seg ++ rest ∧ t = .hyb o v d ∧ Seg K (if o = .jump then false else ext) seg v d := by
  unfold hybTok at h
  cases hc : collectVarDom K (if o = .jump then false else ext) cs with
  | none => rw [hc] at h; cases h
  | some p =>
    obtain ⟨v, d, r⟩ := p
    rw [hc] at h
    cases h
    obtain ⟨seg, hseg, hS⟩ := collectVarDom_sound hc
    exact ⟨seg, v, d, hseg, rfl, hS⟩

omit hK in
theorem delimTok_sound {close : Char} {mk : Name → Atom} {cs : List Char} {t : Tok} {rest : List Char}
    (h : delimTok K close mk cs = some (t, rest)) : ∃ v, ValidId K v ∧ cs = v ++ close :: rest ∧ t = .atom (mk v) := by
  unfold delimTok at h
  have hsplit := collectName_split K cs
  by_cases he : (collectName K cs).1.isEmpty = true
  · rw [if_pos he] at h; cases h
  rw [if_neg he] at h
  cases hx : expect close (collectName K cs).2 with
  | none => rw [hx] at h; cases h
  | some r =>
    rw [hx] at h
    cases h
    refine ⟨_, ⟨by simpa using he, hsplit.2.1⟩, ?_, rfl⟩
    conv => lhs; rw [hsplit.1, expect_some hx]

theorem lexTok_sound {ext : Bool} {cs : List Char} {t : Tok} {rest : List Char} (h : lexTok K ext cs = some (t, rest)) :
    ∃ pre sep, cs = pre ++ rest ∧ Tk K ext pre t sep ∧ (sep = true → Sep K rest) := by
  have nosep : false = true → Sep K rest := fun h => by cases h
  have short : ∀ (o : HybOp) (c : Char) (cs : List Char), o.str = [c] → hybTok K ext o cs = some (t, rest) →
      ∃ pre sep, c :: cs = pre ++ rest ∧ Tk K ext pre t sep ∧ (sep = true → Sep K rest) := by
    intro o c cs ho h
    obtain ⟨seg, v, d, rfl, rfl, hS⟩ := hybTok_sound h
    exact ⟨o.str ++ seg, false, by rw [ho]; rfl, .hybShort o seg v d hS, nosep⟩
  have sym : ∀ (o : BinOp) (pre : List Char), o.str = pre → (o = .and ∨ o = .or ∨ o = .xor ∨ o = .imp ∨ o = .iff) →
      ∃ pre' sep, pre ++ rest = pre' ++ rest ∧ Tk K ext pre' (.bin o) sep ∧ (sep = true → Sep K rest) :=
    fun o pre ho hsym => ⟨pre, false, rfl, ho ▸ .binsym o hsym, nosep⟩
  cases cs with
  | nil => cases h
  | cons c cs =>
  revert h
  -- one `ite_imp` per alternative of `lexTok`, in its order; an alternative that returns a token is one rule of `Tk`
  refine ite_imp (fun _ h => by cases h) (fun _ => ?_)
  refine ite_imp (fun hc h => ?_) (fun _ => ?_)
  · cases h; subst hc
    exact ⟨['~'], false, rfl, .not, nosep⟩
  refine ite_imp (fun hc h => ?_) (fun _ => ?_)
  · cases h; subst hc
    exact sym .and ['&'] (BinOp.str_eq _) (by decide)
  refine ite_imp (fun hc h => ?_) (fun _ => ?_)
  · cases h; subst hc
    exact sym .or ['|'] (BinOp.str_eq _) (by decide)
  refine ite_imp (fun hc h => ?_) (fun _ => ?_)
  · cases h; subst hc
    exact sym .xor ['^'] (BinOp.str_eq _) (by decide)
  refine ite_imp (fun hc h => ?_) (fun _ => ?_)
  · subst hc
    split at h
    · cases h
      exact sym .imp ['=', '>'] (BinOp.str_eq _) (by decide)
    · cases h
  refine ite_imp (fun hc h => ?_) (fun _ => ?_)
  · subst hc
    split at h
    · cases h
      exact sym .iff ['<', '=', '>'] (BinOp.str_eq _) (by decide)
    · cases h
  refine ite_imp (fun _ h => by cases h) (fun _ => ?_)
  refine ite_imp (fun hEA h => ?_) (fun hEA => ?_)
  · cases cs with
    | nil => cases h
    | cons c2 cs' =>
      revert h
      refine ite_imp (fun hn h => ?_) (fun hn h => ?_)
      · cases h
        have hsplit := collectName_split K cs'
        refine ⟨[c, c2] ++ (collectName K cs').fst, true, ?_, .name _ (validName_long hK hEA hn), fun _ => hsplit.2.2⟩
        simp only [List.cons_append, List.nil_append, List.cons.injEq, true_and]
        exact hsplit.1
      · cases ht : tempUn c c2 with
        | none => rw [ht] at h; cases h
        | some t' =>
          rw [ht] at h
          simp only [Option.some.injEq, Prod.mk.injEq] at h
          obtain ⟨rfl, rfl⟩ := h
          exact ⟨[c, c2], true, rfl, .temp c c2 t' ht, fun _ => (nextIsName_false_iff cs').mp (by simpa using hn)⟩
  refine ite_imp (fun hc h => ?_) (fun _ => ?_)
  · exact short .bind c cs (by rw [hc]; exact HybOp.str_eq _) h
  refine ite_imp (fun h3 h => ?_) (fun h3 => ?_)
  · have hc : c = '3' := by simp only [Bool.and_eq_true, decide_eq_true_eq] at h3; exact h3.1
    exact short .ex c cs (by rw [hc]; exact HybOp.str_eq _) h
  refine ite_imp (fun hV h => ?_) (fun hV => ?_)
  · have hc : c = 'V' := by simp only [Bool.and_eq_true, decide_eq_true_eq] at hV; exact hV.1
    exact short .all c cs (by rw [hc]; exact HybOp.str_eq _) h
  refine ite_imp (fun hc h => ?_) (fun _ => ?_)
  · exact short .jump c cs (by rw [hc]; exact HybOp.str_eq _) h
  refine ite_imp (fun hc h => ?_) (fun _ => ?_)
  · subst hc
    have hsplit := collectName_split K cs
    cases ho : hybOfLong (collectName K cs).fst with
    | none => rw [ho] at h; cases h
    | some o =>
      rw [ho] at h
      obtain ⟨seg, v, d, hseg, rfl, hS⟩ := hybTok_sound h
      refine ⟨'\\' :: ((collectName K cs).fst ++ seg), false, ?_, .hybLong o _ seg v d ho hS, nosep⟩
      simp only [List.cons_append, List.append_assoc, List.cons.injEq, true_and]
      rw [← hseg]; exact hsplit.1
  refine ite_imp (fun _ h => by cases h) (fun _ => ?_)
  refine ite_imp (fun _ h => by cases h) (fun _ => ?_)
  refine ite_imp (fun hc h => ?_) (fun _ => ?_)
  · subst hc
    obtain ⟨v, hv, rfl, rfl⟩ := delimTok_sound h
    exact ⟨'{' :: (v ++ ['}']), false, by simp, .var v hv, nosep⟩
  refine ite_imp (fun hc h => ?_) (fun _ => ?_)
  · obtain ⟨rfl, hext⟩ : c = '%' ∧ ext = true := by simpa using hc
    obtain ⟨v, hv, rfl, rfl⟩ := delimTok_sound h
    exact ⟨'%' :: (v ++ ['%']), false, by simp, .wild v hext hv, nosep⟩
  refine ite_imp (fun hname h => ?_) (fun _ h => by cases h)
  cases h
  have hsplit := collectName_split K cs
  refine ⟨[c] ++ (collectName K cs).fst, true, ?_, .name _ (validName_short hEA h3 hV hname), fun _ => hsplit.2.2⟩
  simp only [List.cons_append, List.nil_append, List.cons.injEq, true_and]; exact hsplit.1

/-- C05: whatever the tokenizer accepts is a spelling of the specification. -/
theorem lex_sound_rec (ext : Bool) : ∀ (n : Nat) (top : Bool) (cs : List Char) (ts : List Tok) (rest : List Char),
    lexRec K ext n top cs = .ok (ts, rest) →
    ∃ text, Sp K ext text ts ∧ cs = text ++ tailOf top rest ∧ (top = true → rest = []) := by
  refine lexRec_induct (motive := fun _ top cs ts rest =>
    ∃ text, Sp K ext text ts ∧ cs = text ++ tailOf top rest ∧ (top = true → rest = [])) ?_ ?_ ?_ ?_ ?_
  · intro _
    exact ⟨[], Sp.nil, rfl, fun _ => rfl⟩
  · intro _ top c cs ts r hc _ ⟨text, hsp, hcs, hr⟩
    exact ⟨c :: text, Sp.ws c text ts hc hsp, by rw [hcs]; rfl, hr⟩
  · intro _ cs _
    exact ⟨[], Sp.nil, rfl, fun h => by cases h⟩
  · intro _ top cs grp rest ts r _ _ ⟨inner, hspi, hcsi, _⟩ _ ⟨text, hsp, hcs, hr⟩
    refine ⟨'(' :: (inner ++ ')' :: text), Sp.group inner grp text ts hspi hsp, ?_, hr⟩
    rw [hcsi, hcs]
    simp [tailOf]
  · intro _ top cs t rest ts r ht _ ⟨text, hsp, hcs, hr⟩
    obtain ⟨pre, sep, hpre, htk, hsep⟩ := lexTok_sound hK ht
    refine ⟨pre ++ text, Sp.tok htk (fun h => sep_left (hcs ▸ hsep h)) hsp, ?_, hr⟩
    rw [hpre, hcs, List.append_assoc]

theorem tokenize_iff_spells (ext : Bool) (cs : List Char) (toks : List Tok) :
    tokenize K ext cs = .ok toks ↔ Sp K ext cs toks := by
  constructor
  · intro h
    unfold tokenize at h
    cases hl : lexRec K ext (cs.length + 1) true cs with
    | error e => simp [hl] at h
    | ok r =>
      simp only [hl] at h
      cases h
      obtain ⟨text, hsp, hcs, _⟩ := lex_sound_rec hK ext _ _ _ _ _ hl
      simp only [tailOf, if_true, List.append_nil] at hcs
      rw [hcs]; exact hsp
  · exact lex_complete hK ext cs toks

omit hK

theorem allWs_sp (ext : Bool) (w : List Char) (hw : AllWs K w) {b : List Char} {ts : List Tok} (h : Sp K ext b ts) :
    Sp K ext (w ++ b) ts := by
  induction w with
  | nil => simpa using h
  | cons c w ih => exact Sp.ws c (w ++ b) ts (hw c (by simp)) (ih (fun x hx => hw x (by simp [hx])))

theorem Sp.append {ext : Bool} {a b : List Char} {t1 t2 : List Tok} (ha : Sp K ext a t1) (hb : Sp K ext b t2)
    (hs : Sep K b) : Sp K ext (a ++ b) (t1 ++ t2) := by
  refine Sp.induct (motive := fun a t1 => Sp K ext (a ++ b) (t1 ++ t2)) ?_ ?_ ?_ ?_ ha
  · exact hb
  · intro c cs ts hc _ ih; exact Sp.ws c _ _ hc ih
  · intro inner tsi cs ts hi _ _ ih
    have : '(' :: (inner ++ ')' :: cs) ++ b = '(' :: (inner ++ ')' :: (cs ++ b)) := by simp
    rw [this]; exact Sp.group inner tsi _ _ hi ih
  · intro pre t sep cs ts htk hsep _ ih
    rw [List.append_assoc]; exact Sp.tok htk (fun h => sep_append (hsep h) hs) ih

theorem ws_between (hK : CharsOK K) {ext : Bool} {a b w : List Char} {t1 t2 : List Tok} (ha : Sp K ext a t1)
    (hb : Sp K ext b t2) (hw : AllWs K w) (hne : w ≠ [] ∨ Sep K b) : Sp K ext (a ++ (w ++ b)) (t1 ++ t2) := by
  apply Sp.append ha (allWs_sp ext w hw hb)
  cases w with
  | nil => rcases hne with h | h; exact absurd rfl h; simpa using h
  | cons c w => intro x hx; simp at hx; subst hx; exact hK.ws_not_name _ (hw _ (by simp))

end Lex
end Hctl
