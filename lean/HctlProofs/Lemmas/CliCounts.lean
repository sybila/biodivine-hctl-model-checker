/-
  C03 / C17: the numbers the tool reports for a formula never exceed those of the graph's unit set.
-/
import HctlProofs.Lemmas.CliModel
namespace Hctl.C17
open Cli

/-- exhaustive mode lists exactly the states that are in the result for at least one colour -/
theorem mem_listed (G : Graph) (r : CSet) (s : Nat) :
    s ∈ listed G r ↔ s < G.nS ∧ ∃ c, c < G.nC ∧ r (zeroPt G s c) = true := by
  simp [listed]

theorem counts_states_eq_listed (G : Graph) (r : CSet) : (counts G r).2.2 = (listed G r).length := rfl

theorem length_filter_mono {α : Type} {p q : α → Bool} {l : List α} (h : ∀ a ∈ l, p a = true → q a = true) :
    (l.filter p).length ≤ (l.filter q).length := by
  rw [← List.countP_eq_length_filter, ← List.countP_eq_length_filter]
  exact List.countP_mono_left h

theorem mem_allPairs (G : Graph) (sc : Nat × Nat) : sc ∈ allPairs G ↔ sc.1 < G.nS ∧ sc.2 < G.nC := by
  obtain ⟨s, c⟩ := sc
  simp [allPairs]

theorem counts_mono_on (G : Graph) (r U : CSet) (h : ∀ p ∈ G.points, r p = true → U p = true) :
    (counts G r).1 ≤ (counts G U).1 ∧ (counts G r).2.1 ≤ (counts G U).2.1 ∧ (counts G r).2.2 ≤ (counts G U).2.2 := by
  refine ⟨?_, ?_, ?_⟩
  · refine length_filter_mono (fun sc hsc hr => ?_)
    obtain ⟨h1, h2⟩ := (mem_allPairs G sc).mp hsc
    exact h _ (zeroPt_mem_points G _ _ h1 h2) hr
  · refine length_filter_mono (fun c hc hr => ?_)
    simp only [List.any_eq_true, List.mem_range] at hr hc ⊢
    obtain ⟨s, hs, hr⟩ := hr
    exact ⟨s, hs, h _ (zeroPt_mem_points G _ _ hs hc) hr⟩
  · refine length_filter_mono (fun s hs hr => ?_)
    simp only [List.any_eq_true, List.mem_range] at hr hs ⊢
    obtain ⟨c, hc, hr⟩ := hr
    exact ⟨c, hc, h _ (zeroPt_mem_points G _ _ hs hc) hr⟩

/-- what `summarize_results` prints grows with the set -/
theorem counts_mono (G : Graph) (r U : CSet) (h : ∀ p, r p = true → U p = true) :
    (counts G r).1 ≤ (counts G U).1 ∧ (counts G r).2.1 ≤ (counts G U).2.1 ∧ (counts G r).2.2 ≤ (counts G U).2.2 :=
  counts_mono_on G r U (fun p _ => h p)

variable {net : Nat → Env} (hN : NetFamily net) {C : CharClass} (hC : Lex.CharsOK C)
  (hE : ∀ k, EnvOK (net k)) (hG : ∀ k, GraphWF (net k).G) (hA : ∀ k, C12.GraphAsync (net k).G)
include hN hC hE hG hA

/-- every archived result lies inside the unit set of the graph the tool built -/
theorem results_subset_unit (ext : Bool) (ctxSets : List (Name × CSet)) (hctx : ∀ e ∈ ctxSets, SetSC e.2) (text : List Char)
    (k : Nat) (trees : List Tree) (rs : List CSet) (h : analyse net C ext ctxSets text = .results k trees rs) :
    ∀ r ∈ rs, ∀ p ∈ (net k).G.points, r p = true → (net k).G.unit0 p = true := by
  intro r hr p hp hrp
  rcases analyse_correct hN hC hE hG hA ext ctxSets hctx text with ⟨e, he⟩ | ⟨trees', rs', ps, ds, h1, _, _, hlen, hall⟩
  · rw [h] at he; cases he
  · rw [h] at h1
    cases h1
    obtain ⟨i, hi, rfl⟩ := List.getElem_of_mem hr
    exact ((hall i (hlen ▸ hi) hi p ((hE _).pts_eq ▸ hp)).mp hrp).1

/-- C03 for the tool: the three numbers printed for a formula never exceed those of the unit set of the graph it built -/
theorem reported_counts_le (ext : Bool) (ctxSets : List (Name × CSet)) (hctx : ∀ e ∈ ctxSets, SetSC e.2) (text : List Char)
    (k : Nat) (trees : List Tree) (rs : List CSet) (h : analyse net C ext ctxSets text = .results k trees rs) :
    ∀ r ∈ rs, (counts (net k).G r).1 ≤ (counts (net k).G (net k).G.unit0).1 ∧
      (counts (net k).G r).2.1 ≤ (counts (net k).G (net k).G.unit0).2.1 ∧
      (counts (net k).G r).2.2 ≤ (counts (net k).G (net k).G.unit0).2.2 :=
  fun r hr => counts_mono_on _ _ _ (results_subset_unit hN hC hE hG hA ext ctxSets hctx text k trees rs h r hr)

end Hctl.C17
