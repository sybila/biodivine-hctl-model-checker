/-
  Laws of the (co)inductive forms: unfolding, monotonicity, reachability; until and weak until on one path, and
  EW / AW through their duals (`ew_path_iff`, `aw_path_iff`: these rest on `wuntil_dual`, hence not in Kripke.lean).
-/
import HctlProofs.Spec.Semantics
import HctlProofs.Lemmas.Kripke
namespace Hctl
open Kripke

variable {α : Type} {R : α → α → Prop}

theorem EUi_unfold (φ ψ : α → Prop) (s : α) :
    EUi R φ ψ s ↔ ψ s ∨ (φ s ∧ ∃ t, R s t ∧ EUi R φ ψ t) := by
  constructor
  · intro h
    cases h with
    | here h => exact Or.inl h
    | step hφ hR h => exact Or.inr ⟨hφ, _, hR, h⟩
  · rintro (h | ⟨hφ, t, hR, h⟩)
    · exact EUi.here h
    · exact EUi.step hφ hR h

theorem AUi_unfold (φ ψ : α → Prop) (s : α) :
    AUi R φ ψ s ↔ ψ s ∨ (φ s ∧ ∀ t, R s t → AUi R φ ψ t) := by
  constructor
  · intro h
    cases h with
    | here h => exact Or.inl h
    | step hφ h => exact Or.inr ⟨hφ, h⟩
  · rintro (h | ⟨hφ, h⟩)
    · exact AUi.here h
    · exact AUi.step hφ h

theorem EGc_unfold (φ : α → Prop) (s : α) :
    EGc R φ s ↔ φ s ∧ ∃ t, R s t ∧ EGc R φ t := by
  constructor
  · rintro ⟨X, hs, hX⟩
    obtain ⟨hφ, t, hR, ht⟩ := hX s hs
    exact ⟨hφ, t, hR, X, ht, hX⟩
  · rintro ⟨hφ, t, hR, X, ht, hX⟩
    refine ⟨fun x => x = s ∨ X x, Or.inl rfl, ?_⟩
    rintro x (rfl | hx)
    · exact ⟨hφ, t, hR, Or.inr ht⟩
    · obtain ⟨h1, y, h2, h3⟩ := hX x hx
      exact ⟨h1, y, h2, Or.inr h3⟩

/-! Monotonicity relative to a set `I` of states closed under the relation (a graph's state space). -/

theorem EUi.mono_on {I φ φ' ψ ψ' : α → Prop} (hI : ∀ x y, I x → R x y → I y) (hφ : ∀ x, I x → φ x → φ' x)
    (hψ : ∀ x, I x → ψ x → ψ' x) {s : α} (h : EUi R φ ψ s) (hs : I s) : EUi R φ' ψ' s := by
  induction h with
  | here h => exact EUi.here (hψ _ hs h)
  | step h1 hR _ ih => exact EUi.step (hφ _ hs h1) hR (ih (hI _ _ hs hR))

theorem AUi.mono_on {I φ φ' ψ ψ' : α → Prop} (hI : ∀ x y, I x → R x y → I y) (hφ : ∀ x, I x → φ x → φ' x)
    (hψ : ∀ x, I x → ψ x → ψ' x) {s : α} (h : AUi R φ ψ s) (hs : I s) : AUi R φ' ψ' s := by
  induction h with
  | here h => exact AUi.here (hψ _ hs h)
  | step h1 _ ih => exact AUi.step (hφ _ hs h1) fun t hR => ih t hR (hI _ _ hs hR)

theorem EGc.mono_on {I φ φ' : α → Prop} (hI : ∀ x y, I x → R x y → I y) (hφ : ∀ x, I x → φ x → φ' x) {s : α}
    (h : EGc R φ s) (hs : I s) : EGc R φ' s := by
  obtain ⟨X, hXs, hX⟩ := h
  refine ⟨fun x => X x ∧ I x, ⟨hXs, hs⟩, fun x hx => ?_⟩
  obtain ⟨h1, y, hR, hy⟩ := hX x hx.1
  exact ⟨hφ x hx.2 h1, y, hR, hy, hI x y hx.2 hR⟩

theorem EUi.mono {φ φ' ψ ψ' : α → Prop} (hφ : ∀ x, φ x → φ' x) (hψ : ∀ x, ψ x → ψ' x) {s : α}
    (h : EUi R φ ψ s) : EUi R φ' ψ' s :=
  EUi.mono_on (I := fun _ => True) (fun _ _ _ _ => trivial) (fun x _ => hφ x) (fun x _ => hψ x) h trivial

theorem AUi.mono {φ φ' ψ ψ' : α → Prop} (hφ : ∀ x, φ x → φ' x) (hψ : ∀ x, ψ x → ψ' x) {s : α}
    (h : AUi R φ ψ s) : AUi R φ' ψ' s :=
  AUi.mono_on (I := fun _ => True) (fun _ _ _ _ => trivial) (fun x _ => hφ x) (fun x _ => hψ x) h trivial

theorem EGc.mono {φ φ' : α → Prop} (hφ : ∀ x, φ x → φ' x) {s : α} (h : EGc R φ s) : EGc R φ' s :=
  EGc.mono_on (I := fun _ => True) (fun _ _ _ _ => trivial) (fun x _ => hφ x) h trivial

theorem EUi_iff_starIn (φ ψ : α → Prop) (s : α) :
    EUi R φ ψ s ↔ ∃ u, StarIn R φ s u ∧ ψ u := by
  constructor
  · intro h
    induction h with
    | @here s h => exact ⟨s, StarIn.refl s, h⟩
    | step hφ hR _ ih =>
      obtain ⟨u, hs, hu⟩ := ih
      exact ⟨u, StarIn.step hφ hR hs, hu⟩
  · rintro ⟨u, hs, hu⟩
    induction hs with
    | refl s => exact EUi.here hu
    | step hφ hR _ ih => exact EUi.step hφ hR (ih hu)

theorem exists_least {P : Nat → Prop} (h : ∃ i, P i) : ∃ i, P i ∧ ∀ j, j < i → ¬ P j := by
  obtain ⟨i, hi⟩ := h
  induction i using Nat.strongRecOn with
  | _ i ih =>
    by_cases hex : ∃ j, j < i ∧ P j
    · obtain ⟨j, hj, hPj⟩ := hex
      exact ih j hj hPj
    · exact ⟨i, hi, fun j hj hPj => hex ⟨j, hj, hPj⟩⟩

theorem untilOn_now {φ ψ : Nat → Prop} {π : Nat → Nat} (h : ψ (π 0)) : untilOn φ ψ π :=
  ⟨0, h, fun _ hj => absurd hj (Nat.not_lt_zero _)⟩

/-- weak until on one path: `φ W ψ  ≡  ¬(¬ψ U (¬φ ∧ ¬ψ))` -/
theorem wuntil_dual (φ ψ : Nat → Prop) (π : Nat → Nat) :
    (untilOn φ ψ π ∨ ∀ i, φ (π i)) ↔ ¬ untilOn (fun t => ¬ ψ t) (fun t => ¬ φ t ∧ ¬ ψ t) π := by
  constructor
  · rintro h ⟨i, ⟨hnφ, hnψ⟩, hbefore⟩
    cases h with
    | inl h =>
      obtain ⟨k, hψk, hφk⟩ := h
      rcases Nat.lt_trichotomy k i with hlt | heq | hgt
      · exact hbefore k hlt hψk
      · subst heq; exact hnψ hψk
      · exact hnφ (hφk i hgt)
    | inr h => exact hnφ (h i)
  · intro hn
    by_cases hall : ∀ i, φ (π i)
    · exact Or.inr hall
    · left
      obtain ⟨i, hi, hleast⟩ := exists_least (Classical.not_forall.mp hall)
      have hψ : ∃ k, k ≤ i ∧ ψ (π k) := by
        apply Classical.byContradiction
        intro hne
        apply hn
        refine ⟨i, ⟨hi, fun h => hne ⟨i, Nat.le_refl i, h⟩⟩, fun j hj h => hne ⟨j, Nat.le_of_lt hj, h⟩⟩
      obtain ⟨k, hk, hψk⟩ := hψ
      refine ⟨k, hψk, fun j hj => ?_⟩
      exact Classical.byContradiction (fun h => hleast j (Nat.lt_of_lt_of_le hj hk) h)

/-- until on a single path: `φ U ψ ≡ ¬(¬ψ U (¬φ ∧ ¬ψ)) ∧ ¬G¬ψ` -/
theorem until_dual (φ ψ : Nat → Prop) (π : Nat → Nat) :
    untilOn φ ψ π ↔ (¬ untilOn (fun t => ¬ ψ t) (fun t => ¬ φ t ∧ ¬ ψ t) π ∧ ¬ ∀ i, ¬ ψ (π i)) := by
  constructor
  · intro h
    refine ⟨(wuntil_dual φ ψ π).mp (Or.inl h), ?_⟩
    obtain ⟨i, hi, _⟩ := h
    exact fun hall => hall i hi
  · rintro ⟨h1, h2⟩
    cases (wuntil_dual φ ψ π).mpr h1 with
    | inl h => exact h
    | inr hG =>
      obtain ⟨i, hi⟩ := Classical.not_forall_not.mp h2
      exact ⟨i, hi, fun j _ => hG j⟩

theorem ew_path_iff {R : Nat → Nat → Prop} (hT : Total R) (φ ψ : Nat → Prop) (s : Nat) :
    (∃ π : Path R s, untilOn φ ψ π.π ∨ ∀ i, φ (π.π i)) ↔
      ¬ AUi R (fun t => ¬ ψ t) (fun t => ¬ φ t ∧ ¬ ψ t) s := by
  rw [← au_path_iff hT, Classical.not_forall]
  exact exists_congr fun π => wuntil_dual φ ψ π.π

theorem aw_path_iff {R : Nat → Nat → Prop} (hT : Total R) (φ ψ : Nat → Prop) (s : Nat) :
    (∀ π : Path R s, untilOn φ ψ π.π ∨ ∀ i, φ (π.π i)) ↔
      ¬ EUi R (fun t => ¬ ψ t) (fun t => ¬ φ t ∧ ¬ ψ t) s := by
  rw [← eu_path_iff hT, not_exists]
  exact forall_congr' fun π => wuntil_dual φ ψ π.π

end Hctl
