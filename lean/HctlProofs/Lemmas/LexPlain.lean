/-
  The extended tokenizer agrees with the plain one wherever the plain one succeeds, and the plain one never emits a
  wild-card proposition or a domain.
-/
import HctlProofs.Lemmas.LexTok
import HctlProofs.Lemmas.ParserCorrect
namespace Hctl

namespace Lex

/-- without domains the segment ends `} :`; the extended mode finds no `in` there -/
theorem collectVarDom_ext (K : CharClass) (cs : List Char) (v : Name) (d : Option Name) (rest : List Char) :
    collectVarDom K false cs = some (v, d, rest) → d = none ∧ collectVarDom K true cs = some (v, none, rest) := by
  fun_cases collectVarDom K false cs <;> intro h
  case case6 cs1 h1 v' cs2 hcn hne cs3 h3 cs4 dom cs10 hdp cs11 h4 =>
    cases h
    obtain ⟨rfl, rfl⟩ := hdp
    have h5 : skipWs K cs3 = ':' :: rest := expect_some h4
    have hd : domPart K (':' :: rest) = some (none, ':' :: rest) := rfl
    have he : expect ':' (':' :: rest) = some rest := rfl
    simp [collectVarDom, h1, hcn, hne, h3, h5, hd, he]
  all_goals cases h

theorem tempUn_flat {P : Leaf → Prop} (hu : ∀ o, P (.un o)) (hb : ∀ o, P (.bin o)) {c c2 : Char} {t : Tok}
    (h : tempUn c c2 = some t) : ∀ l ∈ t.flat, P l := by
  unfold tempUn at h
  split at h <;>
    first | (cases h; done) | (cases h; exact Tok.forall_flat_un (hu _)) | (cases h; exact Tok.forall_flat_bin (hb _))

theorem hybTok_ext {K : CharClass} {o : HybOp} {cs : List Char} {t : Tok} {r : List Char}
    (h : hybTok K false o cs = some (t, r)) : hybTok K true o cs = some (t, r) ∧ PlainTok t := by
  unfold hybTok at h ⊢
  rw [ite_self] at h
  cases hc : collectVarDom K false cs with
  | none => rw [hc] at h; cases h
  | some p =>
    obtain ⟨v, d, rest⟩ := p
    obtain ⟨rfl, h2⟩ := collectVarDom_ext K cs v d rest hc
    rw [hc] at h
    cases h
    refine ⟨?_, Tok.forall_flat_hyb rfl⟩
    by_cases ho : o = .jump
    · rw [if_pos ho, hc]
    · rw [if_neg ho, h2]

/-- The two modes differ only in the domain of a hybrid operator and in `%`.  This is a walk of its own and not read
off the rules of `LexSpec.lean` (`Tk K false → Tk K true` is immediate): `lexTok_sound` needs `CharsOK`, while `C05.ext_extends_plain` and
`C05.plain_rejects_ext` assume `CharOK` only. -/
theorem lexTok_ext {K : CharClass} (hK : K.isAlnum '%' = false) {cs : List Char} {t : Tok} {r : List Char}
    (h : lexTok K false cs = some (t, r)) : lexTok K true cs = some (t, r) ∧ PlainTok t := by
  cases cs with
  | nil => cases h
  | cons c cs =>
  revert h
  have same : ∀ {t' : Tok} {r' : List Char}, PlainTok t' → some (t', r') = some (t, r) → some (t', r') = some (t, r) ∧ PlainTok t :=
    fun hp h => by cases h; exact ⟨rfl, hp⟩
  have no : (none : Option (Tok × List Char)) = some (t, r) → none = some (t, r) ∧ PlainTok t := fun h => by cases h
  refine ite_imp2 (fun _ => no) (fun _ => ?_)
  refine ite_imp2 (fun _ => same (Tok.forall_flat_un trivial)) (fun _ => ?_)
  refine ite_imp2 (fun _ => same (Tok.forall_flat_bin trivial)) (fun _ => ?_)
  refine ite_imp2 (fun _ => same (Tok.forall_flat_bin trivial)) (fun _ => ?_)
  refine ite_imp2 (fun _ => same (Tok.forall_flat_bin trivial)) (fun _ => ?_)
  refine ite_imp2 (fun _ h => ?_) (fun _ => ?_)
  · split at h
    · exact same (Tok.forall_flat_bin trivial) h
    · cases h
  refine ite_imp2 (fun _ h => ?_) (fun _ => ?_)
  · split at h
    · exact same (Tok.forall_flat_bin trivial) h
    · cases h
  refine ite_imp2 (fun _ => no) (fun _ => ?_)
  refine ite_imp2 (fun _ h => ?_) (fun _ => ?_)
  · cases cs with
    | nil => cases h
    | cons c2 cs' =>
      revert h
      refine ite_imp2 (fun _ => same (plainTok_prop _)) (fun _ h => ?_)
      cases ht : tempUn c c2 with
      | none => rw [ht] at h; cases h
      | some t' => rw [ht] at h; exact same (tempUn_flat (fun _ => trivial) (fun _ => trivial) ht) h
  refine ite_imp2 (fun _ => hybTok_ext) (fun _ => ?_)
  refine ite_imp2 (fun _ => hybTok_ext) (fun _ => ?_)
  refine ite_imp2 (fun _ => hybTok_ext) (fun _ => ?_)
  refine ite_imp2 (fun _ => hybTok_ext) (fun _ => ?_)
  refine ite_imp2 (fun _ h => ?_) (fun _ => ?_)
  · cases ho : hybOfLong (collectName K cs).fst with
    | none => rw [ho] at h; cases h
    | some o => rw [ho] at h; exact hybTok_ext h
  refine ite_imp2 (fun _ => no) (fun _ => ?_)
  refine ite_imp2 (fun _ => no) (fun _ => ?_)
  refine ite_imp2 (fun _ h => ⟨h, ?_⟩) (fun _ => ?_)
  · unfold delimTok at h
    split at h
    · cases h
    · split at h
      · cases h; exact Tok.forall_flat_atom trivial
      · cases h
  -- `%`: the plain mode fails at the last alternative, since `%` is no name character
  intro h
  rw [if_neg (by simp : ¬ (decide (c = '%') && false) = true)] at h
  revert h
  refine ite_imp (fun h18 h => ?_) (fun _ h => by cases h)
  have hp : ¬ (decide (c = '%') && true) = true := by
    intro hcp
    simp only [Bool.and_true, decide_eq_true_eq] at hcp
    subst hcp
    simp [isName, hK] at h18
  rw [if_neg hp, if_pos h18]
  exact same (plainTok_prop _) h

theorem lex_plain_rec (K : CharClass) (hK : K.isAlnum '%' = false) :
    ∀ n top cs r, lexRec K false n top cs = .ok r → lexRec K true n top cs = .ok r ∧ PlainToks r.1 := by
  intro n top cs r h
  obtain ⟨ts, r⟩ := r
  refine lexRec_induct (motive := fun n top cs ts r => lexRec K true n top cs = .ok (ts, r) ∧ PlainToks ts)
    ?_ ?_ ?_ ?_ ?_ n top cs ts r h
  · intro n; exact ⟨rfl, Tok.forall_flatList_nil⟩
  · intro n top c cs ts r hc _ ih; rw [lexRec_ws true c hc]; exact ih
  · intro n cs hc; rw [lexRec_close true hc]; exact ⟨rfl, Tok.forall_flatList_nil⟩
  · intro n top cs grp rest ts r hc _ ih1 _ ih2
    rw [lexRec_open true hc _ _ _ _ _ ih1.1, ih2.1]
    exact ⟨rfl, Tok.forall_flatList_cons (plainTok_group ih1.2) ih2.2⟩
  · intro n top cs t rest ts r ht _ ih
    obtain ⟨ht', hp⟩ := lexTok_ext hK ht
    rw [lexRec_tok true ht', ih.1]
    exact ⟨rfl, Tok.forall_flatList_cons hp ih.2⟩

theorem tokenize_ext_of_plain (K : CharClass) (hK : CharOK K) (cs : List Char) (ts : List Tok)
    (h : tokenize K false cs = .ok ts) : tokenize K true cs = .ok ts ∧ PlainToks ts := by
  unfold tokenize at h ⊢
  cases hl : lexRec K false (cs.length + 1) true cs with
  | error e => simp [hl] at h
  | ok r =>
    simp only [hl] at h
    cases h
    obtain ⟨h1, h2⟩ := lex_plain_rec K hK.pct _ _ _ _ hl
    rw [h1]
    exact ⟨rfl, h2⟩

end Lex

theorem plain_of_accepted (K : CharClass) (hK : Lex.CharOK K) (cs : List Char) (ts : List Tok) (t : Tree)
    (hl : Lex.tokenize K false cs = .ok ts) (hp : parseToks ts = .ok t) : Plain t := by
  apply plain_of_frontier
  rw [← (parseAt_sound _ .hyb ts t hp).frontier_eq]
  exact (Lex.tokenize_ext_of_plain K hK cs ts hl).2

end Hctl
