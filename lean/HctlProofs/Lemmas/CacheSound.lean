/-
  The frame of the cached evaluator: lookup (`lookup_spec`), store (`store_ok`), and both around an arbitrary body
  (`cached_sound`).  The induction over the nodes is `evalNode_sound` in EvalNodeSound.lean.
-/
import HctlProofs.Lemmas.KeyProof
import HctlProofs.Lemmas.EvalNodeEq
namespace Hctl

section
variable {C : CharClass} (hC : Lex.CharsOK C) {E : Env} (hE : EnvOK E) {K : SemCtx} {U0 : CSet}
  (hKS : KeySem C E K U0) (hKW : KeyWild C E K U0)

theorem sem_inter_unit {a U : CSet} {φ : Point → Prop} (ha : Sem E a U φ) : Sem E (a.inter U) U φ :=
  ha.restrict fun _ _ h => h

theorem CacheOK.fvd_irrel {ctx : ECtx} (f : DomMap) (h : CacheOK C E K U0 ctx) : CacheOK C E K U0 { ctx with fvd := f } :=
  ⟨h.entries, h.wilds, h.domRaw, h.dupsOK⟩

theorem CacheOK.dupSet {ctx : ECtx} (hc : CacheOK C E K U0 ctx) {key : Key} {n : Int}
    (hd : dupGet key ctx.dups = some n) (n' : Int) :
    CacheOK C E K U0 { ctx with dups := Hctl.dupSet key n' ctx.dups } := by
  refine ⟨hc.entries, fun w a hw => ⟨(hc.wilds w a hw).1, (dupGet_set_isSome_iff _ _ _ _).mpr (Or.inr (hc.wilds w a hw).2)⟩,
    hc.domRaw, fun k' n'' hk' => ?_⟩
  by_cases hkk : k' = key
  · subst hkk; exact hc.dupsOK k' n hd
  · rw [dupGet_set, if_neg hkk] at hk'
    exact hc.dupsOK k' n'' hk'

theorem CacheOK.evict {ctx : ECtx} (hc : CacheOK C E K U0 ctx) {key : Key} (hne : ∀ w, wkey w ≠ key) :
    CacheOK C E K U0 { ctx with dups := dupRemove key ctx.dups, cache := cacheRemove key ctx.cache } := by
  refine ⟨fun k' R' rren' hget => ?_, fun w a hw => ?_, hc.domRaw, fun k' n' hk' => ?_⟩
  · rw [cacheGet_remove] at hget
    split at hget
    · cases hget
    · exact hc.entries k' R' rren' hget
  · show cacheGet (wkey w) (cacheRemove key ctx.cache) = _ ∧ (dupGet (wkey w) (dupRemove key ctx.dups)).isSome = true
    rw [cacheGet_remove, dupGet_remove, if_neg (hne w), if_neg (hne w)]
    exact hc.wilds w a hw
  · rw [dupGet_remove] at hk'
    split at hk'
    · cases hk'
    · exact hc.dupsOK k' n' hk'

section
include hKW

theorem key_of_isWild {t : Tree} {U : CSet} {ds : List (Option Name)} {key : Key} {ren : List (Name × Name)}
    (hq : GoodQ C E K U0 t U ds) (hkey : keyOf t (fvdOf ds) = (key, ren)) (hw : t.isWild = true) :
    ∃ w a, key = wkey w ∧ K.wild w = some a := by
  cases t with
  | atom a =>
    cases a with
    | wild w =>
      obtain ⟨a', ha'⟩ := hq.wildsIn
      have hkw := hKW.wild_key w ds hq.valid.1
      rw [hkey] at hkw
      exact ⟨w, a', (Prod.mk.inj hkw).1, ha'⟩
    | _ => simp [Tree.isWild] at hw
  | _ => simp [Tree.isWild] at hw

theorem key_ne_wkey {t : Tree} {U : CSet} {ds : List (Option Name)} {key : Key} {ren : List (Name × Name)}
    (hq : GoodQ C E K U0 t U ds) (hkey : keyOf t (fvdOf ds) = (key, ren)) (hnw : t.isWild = false) (w : Name) :
    wkey w ≠ key := by
  intro he
  rw [hKW.key_wild t U ds w ren hq (by rw [he]; exact hkey)] at hnw
  simp [Tree.isWild] at hnw

/-- (C04) storing an exact result keeps the invariant -/
theorem store_ok {t : Tree} {U : CSet} {ds : List (Option Name)} {key : Key} {ren : List (Name × Name)}
    {save : Bool} {r : CSet} {ctx1 : ECtx}
    (hq : GoodQ C E K U0 t U ds) (hkey : keyOf t (fvdOf ds) = (key, ren)) (hnw : t.isWild = false)
    (hsave : save = true → ren.length ≤ 1 ∧ NoForeign ren ds)
    (hr : Sem E r U (sat E.G K t)) (hc1 : CacheOK C E K U0 ctx1) :
    CacheOK C E K U0 (Eval.store save key ren r ctx1) ∧ (Eval.store save key ren r ctx1).fvd = ctx1.fvd := by
  unfold Eval.store
  cases hs : save with
  | false => simpa using hc1
  | true =>
    obtain ⟨hlen, hnf⟩ := hsave hs
    simp only [if_true]
    refine ⟨⟨?_, ?_, hc1.domRaw, hc1.dupsOK⟩, trivial⟩
    · intro k R rren hget
      by_cases hk : k = key
      · subst hk
        rw [cacheGet_insert, if_pos rfl] at hget
        cases hget
        exact Or.inr ⟨t, U, ds, hq, hkey, hlen, hnf, hnw, hr⟩
      · rw [cacheGet_insert, if_neg hk] at hget
        exact hc1.entries k R rren hget
    · intro w a hw
      rw [cacheGet_insert, if_neg (key_ne_wkey hKW hq hkey hnw w)]
      exact hc1.wilds w a hw

end

include hC hE hKS hKW

/-- (C04) A hit returns an exact set and keeps the invariant; a miss reports the key.  `hfvd` is threaded because the
key (`canonDoms`) and the flag `foreign` are computed from `ctx.fvd`; it ties them to the open domains `ds`. -/
theorem lookup_spec {t : Tree} {U : CSet} {ds : List (Option Name)} {ctx : ECtx}
    (hq : GoodQ C E K U0 t U ds) (hfvd : ctx.fvd = fvdOf ds) (hc : CacheOK C E K U0 ctx) :
    (∃ r ctx', Eval.lookup E t U ctx = .hit r ctx' ∧ Sem E r U (sat E.G K t) ∧ CacheOK C E K U0 ctx' ∧
        ctx'.fvd = ctx.fvd) ∨
    (∃ save key ren, Eval.lookup E t U ctx = .miss save key ren ∧ keyOf t (fvdOf ds) = (key, ren) ∧
        t.isWild = false ∧ (save = true → ren.length ≤ 1 ∧ NoForeign ren ds)) := by
  unfold Eval.lookup
  cases hkc : canonChars t.render with
  | mk canon ren =>
  have hkey : keyOf t (fvdOf ds) = ((canon, canonDoms ren (fvdOf ds)), ren) := by
    simp [keyOf, hkc]
  simp only [hfvd]
  generalize hk : (canon, canonDoms ren (fvdOf ds)) = key at hkey
  -- a wild-card is in the duplicate map and in the cache from the start, so a miss is not a wild-card
  have hnw : dupGet key ctx.dups = none ∨ cacheGet key ctx.cache = none → t.isWild = false := by
    intro hmiss
    cases hw : t.isWild with
    | false => rfl
    | true =>
      obtain ⟨w, a, rfl, ha⟩ := key_of_isWild hKW hq hkey hw
      obtain ⟨h1, h2⟩ := hc.wilds w a ha
      rcases hmiss with h | h
      · rw [h] at h2; cases h2
      · rw [h] at h1; cases h1
  cases hd : dupGet key ctx.dups with
  | none => exact Or.inr ⟨false, key, ren, rfl, hkey, hnw (Or.inl hd), fun h => by cases h⟩
  | some n =>
    cases hcg : cacheGet key ctx.cache with
    | none =>
      right
      refine ⟨_, key, ren, rfl, hkey, hnw (Or.inr hcg), fun hsave => ⟨dups_le_one hC (hc.dupsOK key n hd) hq hkey, ?_⟩⟩
      -- the flag `foreign` is false
      intro i l hil
      have hmem : (xs (i + 1), some l) ∈ fvdOf ds := (fvdOf_get ds i (some l)).mpr hil
      simp only [Bool.not_eq_true', List.any_eq_false] at hsave
      have := hsave _ hmem
      cases hl : ren.lookup (xs (i + 1)) with
      | none => simp [hl] at this
      | some _ => rfl
    | some e =>
      obtain ⟨R, rren⟩ := e
      left
      simp only
      rcases hc.entries key R rren hcg with ⟨w, a, hkw, hwa, hRa, hrr⟩ | ⟨t1, U1, ds1, hq1, hk1, hlen1, hnf1, hnw1, hs1⟩
      · -- a wild-card entry: the node is that wild-card
        have ht := hKW.key_wild t U ds w ren hq (by rw [← hkw]; exact hkey)
        subst ht hRa hrr
        simp only [Tree.isWild, Bool.not_true, Bool.false_and, sortRen, List.foldl_nil, Eval.renameBack,
          Bool.false_eq_true, if_false]
        refine ⟨_, _, rfl, Sem.tab hE fun p hp => ?_, (hc.dupSet hd _).fvd_irrel _, rfl⟩
        simp only [CSet.inter, Bool.and_eq_true, sat, hwa]
        constructor
        · rintro ⟨h1, h2⟩; exact ⟨h2, R, rfl, h1⟩
        · rintro ⟨h2, a', ha', h1⟩; cases ha'; exact ⟨h1, h2⟩
      · -- an ordinary entry: key soundness
        have hnw : t.isWild = false := by
          cases hw : t.isWild with
          | false => rfl
          | true =>
            obtain ⟨w, _, rfl, _⟩ := key_of_isWild hKW hq hkey hw
            exact absurd rfl (key_ne_wkey hKW hq1 hk1 hnw1 w)
        obtain ⟨r', hrb, hsem⟩ := hKS t1 U1 ds1 t U ds key rren ren R hq1 hq hk1 hkey hlen1
          (dups_le_one hC (hc.dupsOK key n hd) hq hkey) hnf1 hnw1 hs1
        rw [hrb]
        refine ⟨_, _, rfl, Sem.tab hE hsem, ?_, by split <;> rfl⟩
        split
        · exact ((hc.dupSet hd _).evict (key_ne_wkey hKW hq hkey hnw)).fvd_irrel _
        · exact (hc.dupSet hd _).fvd_irrel _

/-- If what is computed on a miss is exact and keeps the invariant, so is the node (hit, computed and stored, computed
and not stored).  The body is a parameter: its soundness is the induction hypothesis of `evalNode_sound`. -/
theorem cached_sound {t : Tree} {U : CSet} {ds : List (Option Name)} {ctx : ECtx} {body : Res (Bool × CSet × ECtx)}
    (hq : GoodQ C E K U0 t U ds) (hfvd : ctx.fvd = fvdOf ds) (hc : CacheOK C E K U0 ctx)
    (hb : t.isWild = false → ∃ st r ctx1, body = .ok (st, r, ctx1) ∧ Sem E r U (sat E.G K t) ∧
      CacheOK C E K U0 ctx1 ∧ ctx1.fvd = ctx.fvd) :
    ∃ r ctx', Eval.cached E t U ctx body = .ok (r, ctx') ∧ Sem E r U (sat E.G K t) ∧ CacheOK C E K U0 ctx' ∧
      ctx'.fvd = ctx.fvd := by
  unfold Eval.cached
  rcases lookup_spec hC hE hKS hKW hq hfvd hc with
    ⟨r, ctx', hl, hs, hc', hf⟩ | ⟨save, key, ren, hl, hkey, hnw, hsave⟩
  · rw [hl]; exact ⟨r, ctx', rfl, hs, hc', hf⟩
  · obtain ⟨st, r, ctx1, hb, hs, hc1, hf1⟩ := hb hnw
    rw [hl, hb]
    cases st with
    | false => exact ⟨r, ctx1, rfl, hs, hc1, hf1⟩
    | true =>
      have := store_ok hKW hq hkey hnw hsave hs hc1
      exact ⟨r, _, rfl, hs, this.1, this.2.trans hf1⟩

end
end Hctl
