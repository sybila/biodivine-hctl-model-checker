/-
  `analyse_correct` for the environments the driver evaluates the `cli` requests in: the only hypothesis left about the
  environment is the run-time check `stepsOK` (answered `premises=ok`).
-/
import HctlProofs.Lemmas.DriverEnv
import HctlProofs.Lemmas.CliModel
namespace Hctl.C17
open Cli

/-- the case distinction in `driverNet` is immaterial: replacing the field `k` by its own value changes nothing -/
theorem driverNet_eq (G : Graph) (k : Nat) : driverNet G k = driverEnv { G with k := k } := by
  unfold driverNet
  split
  · next h => subst h; rfl
  · rfl

theorem netFamily_driverNet (G : Graph) : NetFamily (driverNet G) := by
  constructor
  · intro k; rw [driverNet_eq]; rfl
  · intro k n; rw [driverNet_eq, driverNet_eq]; rfl

theorem driverNet_premises (G : Graph) (h : G.stepsOK = true) (k : Nat) :
    EnvOK (driverNet G k) ∧ GraphWF (driverNet G k).G ∧ C12.GraphAsync (driverNet G k).G := by
  rw [driverNet_eq]
  -- `stepsOK` does not read the field `k`
  exact driver_premises { G with k := k } h

theorem stepsOK_restrict (G : Graph) (h : G.stepsOK = true) : G.restrict.stepsOK = true :=
  (stepsOK_iff G.restrict).mpr fun c j s t hc hj hs hst =>
    (stepsOK_iff G).mp h c j s t hc hj hs (restrict_step.mp hst).2

/-- C17: `analyse_correct` for the tool as the driver runs it, on every exported graph that passes `stepsOK` -/
theorem analyse_correct_driver {C : CharClass} (hC : Lex.CharsOK C) (G : Graph) (h : G.stepsOK = true)
    (ext : Bool) (ctxSets : List (Name × CSet)) (hctx : ∀ e ∈ ctxSets, SetSC e.2) (text : List Char) :
    (∃ e, analyse (driverNet G) C ext ctxSets text = .message e) ∨
    (∃ trees rs ps ds, analyse (driverNet G) C ext ctxSets text = .results (kOf trees) trees rs ∧
      prepAll (fun n => ((driverNet G 0).G.label n).isSome) C ext (Loader.loadFormulae C.isWs text) = .ok trees ∧
      collectCtx ext ctxSets trees = some (ps, ds) ∧
      rs.length = trees.length ∧
      ∀ i (hi : i < trees.length) (hi' : i < rs.length), ∀ p ∈ (driverNet G (kOf trees)).pts,
        (rs[i] p = true ↔ ((driverNet G (kOf trees)).G.unit0 p = true ∧
          sat (driverNet G (kOf trees)).G (C04.ctxOf (Api.dedupNames ps) (Api.dedupNames ds)) trees[i] p))) :=
  analyse_correct (netFamily_driverNet G) hC (fun k => (driverNet_premises G h k).1)
    (fun k => (driverNet_premises G h k).2.1) (fun k => (driverNet_premises G h k).2.2) ext ctxSets hctx text

end Hctl.C17
