/-
  The environment the driver evaluates in satisfies the premises of the theorems whenever the run-time
  check `Graph.stepsOK` answers `true` (the driver prints `premises=ok`, the harness requires it).
-/
import HctlModel.GraphCheck
import HctlProofs.Spec.Denotation
namespace Hctl
open Std

theorem foldl_insert_contains (f : CSet) (p : Point) :
    ∀ (pts : List Point) (acc : HashSet Point),
      (pts.foldl (fun acc q => if f q then acc.insert q else acc) acc).contains p
        = (acc.contains p || (decide (p ∈ pts) && f p)) := by
  intro pts
  induction pts with
  | nil => intro acc; simp
  | cons q qs ih =>
    intro acc
    rw [List.foldl_cons, ih]
    by_cases hqp : p = q
    · -- `p` itself is met: it is inserted iff `f p`
      subst hqp
      cases f p <;> simp
    · have : (q == p) = false := beq_eq_false_iff_ne.mpr (Ne.symm hqp)
      split <;> simp [HashSet.contains_insert, this, hqp]

theorem hashTab_ok (pts : List Point) (f : CSet) (p : Point) (hp : p ∈ pts) : hashTab pts f p = f p := by
  show (pts.foldl (fun acc q => if f q then acc.insert q else acc) (∅ : HashSet Point)).contains p = f p
  rw [foldl_insert_contains]
  simp [hp]

theorem stepsOK_iff (G : Graph) : G.stepsOK = true ↔
    ∀ c j s t, c < G.nC → j < G.nV → s < G.nS → G.step c j s = some t → t < G.nS ∧ t ≠ s := by
  simp only [Graph.stepsOK, List.all_eq_true, List.mem_range]
  constructor
  · intro h c j s t hc hj hs hst
    have := h c hc j hj s hs
    rw [hst] at this
    simpa using this
  · intro h c hc j hj s hs
    cases hst : G.step c j s with
    | none => rfl
    | some t => simpa using h c j s t hc hj hs hst

theorem restrict_step {G : Graph} {c j s t : Nat} :
    G.restrict.step c j s = some t ↔ (c < G.nC ∧ j < G.nV ∧ s < G.nS) ∧ G.step c j s = some t := by
  simp only [Graph.restrict]
  split
  · next h => simp [h]
  · next h => simp [h]

/-- what `premises=ok` in the driver's answer to a `graph` request means:
the premises on the environment of C01 `model_check_correct` and C17 `analyse_correct` -/
theorem driver_premises (G : Graph) (h : G.stepsOK = true) :
    EnvOK (driverEnv G) ∧ GraphWF (driverEnv G).G ∧ C12.GraphAsync (driverEnv G).G := by
  have key : ∀ c j s t, G.restrict.step c j s = some t → t < G.nS ∧ t ≠ s := fun c j s t hst =>
    have ⟨hr, hs⟩ := restrict_step.mp hst
    (stepsOK_iff G).mp h c j s t hr.1 hr.2.1 hr.2.2 hs
  exact ⟨⟨fun f p hp => hashTab_ok _ f p hp, rfl⟩, ⟨fun c j s t hst _ => (key c j s t hst).1⟩,
    ⟨fun c j s t hst => (key c j s t hst).2⟩⟩

end Hctl
