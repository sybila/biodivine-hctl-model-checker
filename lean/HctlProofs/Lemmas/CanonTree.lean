/-
  Canonisation at the tree level: the renaming is injective, canonical names are fresh and ordered (`CanonInv`).
  The pass takes one step on the state per variable position, a look-up or a binding (`canonTreeAux_trace`), so an
  invariant of both kinds of step is an invariant of the pass.
-/
import HctlProofs.Spec.Scoping
import HctlProofs.Lemmas.Assoc
import Std.Data.String.ToNat
namespace Hctl

theorem canonName_inj {a b : Nat} (h : canonName a = canonName b) : a = b := by
  simp only [canonName, List.append_cancel_left_eq] at h
  have : Nat.repr a = Nat.repr b := by
    have h' := congrArg String.ofList h
    rw [String.ofList_toList, String.ofList_toList] at h'
    exact h'
  exact Nat.repr_injective this

structure CanonInv (st : CanonT) : Prop where
  bound : ∀ x c, (x, c) ∈ st.map → ∃ j, j < st.stack ∧ c = canonName j
  inj : ∀ x y c, (x, c) ∈ st.map → (y, c) ∈ st.map → x = y
  keys : ∀ x c c', (x, c) ∈ st.map → (x, c') ∈ st.map → c = c'

theorem mem_mapInsert {k v x c : Name} {m : List (Name × Name)} :
    (x, c) ∈ mapInsert k v m ↔ (x = k ∧ c = v) ∨ (x ≠ k ∧ (x, c) ∈ m) := by
  rw [mapInsert, mem_insert, Prod.mk.injEq]

theorem lookup_mapInsert (k v x : Name) (m : List (Name × Name)) :
    (mapInsert k v m).lookup x = if x = k then some v else m.lookup x :=
  lookup_insert x k v m

theorem CanonInv.init : CanonInv {} := ⟨fun _ _ h => by simp at h, fun _ _ _ h => by simp at h, fun _ _ _ h => by simp at h⟩

theorem CanonInv.ne_fresh {st : CanonT} (h : CanonInv st) {x c : Name} (hm : (x, c) ∈ st.map) :
    c ≠ canonName st.stack := by
  obtain ⟨j, hj, rfl⟩ := h.bound x c hm
  exact fun hc => Nat.ne_of_lt hj (canonName_inj hc)

theorem CanonInv.insert {st : CanonT} (h : CanonInv st) (v : Name) :
    CanonInv { map := mapInsert v (canonName st.stack) st.map, stack := st.stack + 1 } := by
  refine ⟨?_, ?_, ?_⟩
  · intro x c hm
    rcases mem_mapInsert.mp hm with ⟨_, rfl⟩ | ⟨_, hm'⟩
    · exact ⟨st.stack, Nat.lt_succ_self _, rfl⟩
    · obtain ⟨j, hj, hc⟩ := h.bound x c hm'
      exact ⟨j, Nat.lt_succ_of_lt hj, hc⟩
  · intro x y c hx hy
    rcases mem_mapInsert.mp hx with ⟨rfl, rfl⟩ | ⟨hxk, hx'⟩
    · rcases mem_mapInsert.mp hy with ⟨rfl, _⟩ | ⟨_, hy'⟩
      · rfl
      · exact absurd rfl (h.ne_fresh hy')
    · rcases mem_mapInsert.mp hy with ⟨rfl, rfl⟩ | ⟨_, hy'⟩
      · exact absurd rfl (h.ne_fresh hx')
      · exact h.inj x y c hx' hy'
  · intro x c c' hx hx'
    rcases mem_mapInsert.mp hx with ⟨rfl, rfl⟩ | ⟨hxk, hm⟩
    · rcases mem_mapInsert.mp hx' with ⟨_, rfl⟩ | ⟨hne, _⟩
      · rfl
      · exact absurd rfl hne
    · rcases mem_mapInsert.mp hx' with ⟨rfl, _⟩ | ⟨_, hm'⟩
      · exact absurd rfl hxk
      · exact h.keys x c c' hm hm'

theorem canonVar_of_some {v cn : Name} {st : CanonT} (h : st.map.lookup v = some cn) : canonVar v st = (cn, st) := by
  rw [canonVar, h]

theorem canonVar_of_none {v : Name} {st : CanonT} (h : st.map.lookup v = none) :
    canonVar v st = (canonName st.stack, ⟨mapInsert v (canonName st.stack) st.map, st.stack + 1⟩) := by
  rw [canonVar, h]

theorem canonVar_inv {st : CanonT} (h : CanonInv st) (v : Name) : CanonInv (canonVar v st).2 := by
  cases hl : st.map.lookup v with
  | some cn => rwa [canonVar_of_some hl]
  | none => rw [canonVar_of_none hl]; exact h.insert v

theorem mapInsert_keeps_keys {m : List (Name × Name)} {k v x : Name} (h : ∃ c, (x, c) ∈ m) :
    ∃ c, (x, c) ∈ mapInsert k v m := by
  obtain ⟨c, hc⟩ := h
  by_cases hx : x = k
  · exact ⟨v, mem_mapInsert.mpr (Or.inl ⟨hx, rfl⟩)⟩
  · exact ⟨c, mem_mapInsert.mpr (Or.inr ⟨hx, hc⟩)⟩

theorem canonVar_keeps (z : Name) (st : CanonT) {y c : Name} (h : (y, c) ∈ st.map) : (y, c) ∈ (canonVar z st).2.map := by
  cases hl : st.map.lookup z with
  | some _ => rwa [canonVar_of_some hl]
  | none =>
    rw [canonVar_of_none hl]
    exact mem_mapInsert.mpr (Or.inr ⟨fun hyz => lookup_ne_none_of_mem (hyz ▸ h) hl, h⟩)

theorem canonVar_has (v : Name) (st : CanonT) : ∃ c, (v, c) ∈ (canonVar v st).2.map := by
  unfold canonVar
  cases h : st.map.lookup v with
  | some cn => exact ⟨cn, mem_of_lookup h⟩
  | none => exact ⟨_, mem_mapInsert.mpr (Or.inl ⟨rfl, rfl⟩)⟩

theorem canonTreeAux_var (v : Name) (T : CanonT) :
    canonTreeAux (.atom (.var v)) T = (.atom (.var (canonVar v T).1), (canonVar v T).2) := rfl

theorem canonTreeAux_un (o : UnOp) (c : Tree) (T : CanonT) :
    canonTreeAux (.un o c) T = (.un o (canonTreeAux c T).1, (canonTreeAux c T).2) := rfl

theorem canonTreeAux_bin (o : BinOp) (l r : Tree) (T : CanonT) : canonTreeAux (.bin o l r) T =
    (.bin o (canonTreeAux l T).1 (canonTreeAux r (canonTreeAux l T).2).1, (canonTreeAux r (canonTreeAux l T).2).2) :=
  rfl

def hybVar (o : HybOp) (v : Name) (T : CanonT) : Name × CanonT :=
  if o = .jump then canonVar v T else (canonName T.stack, ⟨mapInsert v (canonName T.stack) T.map, T.stack + 1⟩)

theorem canonTreeAux_hyb (o : HybOp) (v : Name) (d : Option Name) (c : Tree) (T : CanonT) :
    canonTreeAux (.hyb o v d c) T =
      (.hyb o (hybVar o v T).1 d (canonTreeAux c (hybVar o v T).2).1, (canonTreeAux c (hybVar o v T).2).2) := by
  unfold hybVar
  split
  · subst o; rfl
  · cases o <;> first | contradiction | rfl

theorem hybVar_inv {st : CanonT} (h : CanonInv st) (o : HybOp) (v : Name) : CanonInv (hybVar o v st).2 := by
  unfold hybVar
  split
  · exact canonVar_inv h v
  · exact h.insert v

open C09

/-- `P` relates the names met so far to the state; the positions are met in the order of `varNames t` -/
theorem canonTreeAux_trace (P : List Name → CanonT → Prop)
    (hvar : ∀ seen v st, P seen st → P (seen ++ [v]) (canonVar v st).2)
    (hbind : ∀ seen v (st : CanonT), P seen st →
      P (seen ++ [v]) ⟨mapInsert v (canonName st.stack) st.map, st.stack + 1⟩)
    (t : Tree) (seen : List Name) (st : CanonT) (h : P seen st) :
    P (seen ++ varNames t) (canonTreeAux t st).2 := by
  induction t generalizing seen st with
  | atom a =>
    cases a with
    | var v => exact hvar seen v st h
    | _ => exact (List.append_nil seen).symm ▸ h
  | un o c ih => exact ih seen st h
  | bin o l r ihl ihr =>
    rw [varNames, ← List.append_assoc]
    exact ihr _ _ (ihl seen st h)
  | hyb o v d c ih =>
    rw [varNames, List.append_cons, canonTreeAux_hyb]
    refine ih _ _ ?_
    unfold hybVar
    split
    · exact hvar seen v st h
    · exact hbind seen v st h

namespace C09

/-- the renaming maps every variable of the sub-formula, free or bound, to a canonical name: a name becomes a key at
the step that meets it, and keys are never lost -/
theorem renaming_total : ∀ (t : Tree) (st : CanonT) (x : Name), x ∈ varNames t →
    ∃ c, (x, c) ∈ (canonTreeAux t st).2.map := by
  intro t st x hx
  have := canonTreeAux_trace (fun seen st => ∀ x ∈ seen, ∃ c, (x, c) ∈ st.map)
    (fun seen v st ih x hx => (List.mem_append.mp hx).elim (fun h => (ih x h).imp fun _ hc => canonVar_keeps v st hc)
      (fun h => List.mem_singleton.mp h ▸ canonVar_has v st))
    (fun seen v st ih x hx => (List.mem_append.mp hx).elim (fun h => mapInsert_keeps_keys (ih x h))
      (fun h => List.mem_singleton.mp h ▸ ⟨_, mem_mapInsert.mpr (Or.inl ⟨rfl, rfl⟩)⟩))
    t [] st (fun _ h => nomatch h)
  exact this x (by simpa using hx)

end C09

/-- a look-up leaves the state alone or binds the name, so what binding preserves the pass preserves -/
theorem canonTreeAux_bind (P : CanonT → Prop) (t : Tree) (st : CanonT)
    (hbind : ∀ v ∈ varNames t, ∀ st : CanonT, P st → P ⟨mapInsert v (canonName st.stack) st.map, st.stack + 1⟩)
    (h : P st) : P (canonTreeAux t st).2 := by
  have := canonTreeAux_trace (fun seen st => (∀ v ∈ seen, v ∈ varNames t) → P st)
    (fun seen v s ih hs => ?_)
    (fun seen v s ih hs => hbind v (hs v (by simp)) s (ih fun x hx => hs x (by simp [hx])))
    t [] st (fun _ => h)
  · exact this (by simp)
  have hs' := ih fun x hx => hs x (by simp [hx])
  cases hl : s.map.lookup v with
  | some cn => rwa [canonVar_of_some hl]
  | none =>
    rw [canonVar_of_none hl]
    exact hbind v (hs v (by simp)) s hs'

theorem canonTreeAux_inv (t : Tree) (st : CanonT) (h : CanonInv st) : CanonInv (canonTreeAux t st).2 :=
  canonTreeAux_bind CanonInv t st (fun v _ _ h => h.insert v) h

end Hctl
