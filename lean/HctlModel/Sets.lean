/-
  Explicit-state denotation of symbolic sets.
  A coloured set over a graph with `k` spare variable sets is a Boolean function on points
  `(state, colour, v₀ … v_{k-1})`; `colour` ranges over ALL parameter valuations (valid or not), each
  `vᵢ` is a state.  The graph library's transition structure is a field of `Graph`.
-/
import HctlModel.Dups
namespace Hctl

structure Point where
  s : Nat
  c : Nat
  v : List Nat
  deriving DecidableEq, Hashable, Repr, Inhabited

/-- A coloured set: a Boolean function on points.  (A structure rather than a bare function type so that
compiled definitions returning a set are not eta-expanded over the point: tabulations are computed once.) -/
structure CSet where
  mem : Point → Bool

instance : CoeFun CSet (fun _ => Point → Bool) := ⟨CSet.mem⟩

def Point.setS (p : Point) (t : Nat) : Point := { p with s := t }
def Point.setV (p : Point) (i t : Nat) : Point := { p with v := p.v.set i t }
def Point.getV (p : Point) (i : Nat) : Nat := p.v.getD i 0

/-- What the graph library provides, made explicit (biodivine-lib-param-bn: `SymbolicAsyncGraph`). -/
structure Graph where
  nS : Nat                                  -- number of states
  nC : Nat                                  -- number of colours = ALL parameter valuations
  nV : Nat                                  -- number of network variables
  k : Nat                                   -- number of spare variable sets (HCTL variables supported)
  valid : Nat → Bool                        -- colour satisfies the regulation constraints (unit colours)
  step : Nat → Nat → Nat → Option Nat       -- colour → variable → state ↦ successor (one variable flips)
  label : Name → Option (Nat → Bool)        -- proposition name → network variable as a state predicate

namespace Graph
variable (G : Graph)

/-- all valuations of `n` spare variable sets -/
def vals : Nat → List (List Nat)
  | 0 => [[]]
  | n+1 => (List.range G.nS).flatMap (fun t => (vals n).map (fun v => t :: v))

/-- all points, in the order shared with the harness: state-major, then colour, then valuations -/
def points : List Point :=
  (List.range G.nS).flatMap fun s =>
    (List.range G.nC).flatMap fun c =>
      (G.vals G.k).map fun v => { s := s, c := c, v := v }

/-- the initial unit set: valid colours (`get_extended_symbolic_graph` applies the regulation constraints to `true`) -/
def unit0 : CSet := ⟨fun p => G.valid p.c⟩

end Graph

namespace CSet
def empty : CSet := ⟨fun _ => false⟩
def inter (a b : CSet) : CSet := ⟨fun p => a p && b p⟩
def union (a b : CSet) : CSet := ⟨fun p => a p || b p⟩
def minus (a b : CSet) : CSet := ⟨fun p => a p && !b p⟩
end CSet

/-- `is_empty` on the symbolic set = no point of the universe -/
def isEmptyOn (pts : List Point) (a : CSet) : Bool := pts.all (fun p => !a p)
/-- BDD equality = equality on every point of the universe -/
def eqOn (pts : List Point) (a b : CSet) : Bool := pts.all (fun p => a p == b p)

/-- Execution environment: the graph and a tabulation function.  `tab f` must agree with `f` on the
points of the graph (hypothesis `EnvOK` of the theorems; `id` satisfies it trivially).  The driver uses a
hash-set tabulation so that iterated operators do not build towers of closures. -/
structure Env where
  G : Graph
  tab : CSet → CSet
  pts : List Point          -- cached `G.points`

def Env.pure (G : Graph) : Env := { G := G, tab := id, pts := G.points }

end Hctl
